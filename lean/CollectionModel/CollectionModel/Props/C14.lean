/-
  C14 — Map behaves exactly like a Go map and its views stay coherent.
  Abstract Go map = the function `k ↦ lookup k m`; the model is an association
  list with distinct keys in an unspecified order.
-/
import CollectionModel.Lemmas.AssocLemmas
namespace CM
open CM.Assoc

variable {K V : Type} [DecidableEq K] [Inhabited K] [Inhabited V]

/-- **SetValue**: afterwards the key reads the new value, every other key is unchanged -/
theorem C14_set (m : List (K × V)) (k k' : K) (v : V) :
    lookup k' (mset m k v) = if k' = k then some v else lookup k' m := lookup_mset m k k' v

/-- **RemoveValue**: returns the stored value (the zero value when absent) and afterwards
    exactly that key is gone -/
theorem C14_remove (m : List (K × V)) (k k' : K) :
    (mapRemoveValue m k).1 = (lookup k m).getD default ∧
    lookup k' (mapRemoveValue m k).2 = if k' = k then none else lookup k' m := by
  rw [mapRemoveValue_eq]; exact ⟨rfl, lookup_mremove m k k'⟩

theorem mremove_eq_filter (m : List (K × V)) (k : K) : mremove m k = m.filter (fun p => !decide (p.1 = k)) := rfl

/-- **RemoveValues**: the values come back in request order (a key requested twice reads zero
    the second time) and afterwards exactly the requested keys are gone -/
theorem C14_removeValues : ∀ (ks : List K) (m : List (K × V)) (k' : K),
    (mapRemoveValues m ks).1 = specRemoved m ks ∧
    lookup k' (mapRemoveValues m ks).2 = if k' ∈ ks then none else lookup k' m := by
  intro ks m k'
  rw [mapRemoveValues_eq]; exact ⟨rfl, lookup_foldl_mremove k' ks m⟩

/-- **constructors: the last association wins for repeated keys** -/
theorem C14_make_last_wins (ps : List (K × V)) (k : K) :
    lookup k (mapMakeFrom ps) = lookup k ps.reverse ∧ NodupKeys (mapMakeFrom ps) :=
  ⟨by rw [mapMakeFrom, lookup_foldl_mset, lookup_nil, Option.or_none], nodupKeys_nil.foldl_mset ps⟩

def Assoc.mapAfter (o : MObs K V) (m : List (K × V)) : List (K × V) :=
  match o with
  | .ret m' _ => m'
  | .panic m' _ => m'
  | .hang => m

/-- **keys stay distinct under every call**: the unordered views contain each association exactly once -/
theorem C14_step_nodup (m : List (K × V)) (h : NodupKeys m) (op : MOp K V) :
    NodupKeys (Assoc.mapAfter (mapStep m op) m) := by
  cases op with
  | setValue k v => exact h.mset k v
  | removeValue k => dsimp only [mapStep, mapAfter]; rw [mapRemoveValue_eq]; exact h.mremove k
  | removeValues ks => dsimp only [mapStep, mapAfter]; rw [mapRemoveValues_eq]; exact h.foldl_mremove ks
  | removeAll => exact nodupKeys_nil
  | make ps => exact nodupKeys_nil.foldl_mset ps
  | _ => exact h

def Assoc.mapRun : List (K × V) → List (MOp K V) → List (K × V)
  | m, [] => m
  | m, op :: ops => Assoc.mapRun (Assoc.mapAfter (mapStep m op) m) ops

/-- **after any finite history the keys are distinct** -/
theorem C14_history_nodup : ∀ (ops : List (MOp K V)) (m : List (K × V)), NodupKeys m → NodupKeys (Assoc.mapRun m ops)
  | [], _, h => h
  | op :: ops, m, h => C14_history_nodup ops _ (C14_step_nodup m h op)

/-- **views**: with distinct keys, the array view / iteration / key list enumerate exactly the
    associations of the abstract map, each once -/
theorem C14_views (m : List (K × V)) (h : NodupKeys m) (k : K) (v : V) :
    ((k, v) ∈ m ↔ lookup k m = some v) ∧ (m.map (·.1)).Nodup ∧ (k ∈ m.map (·.1) ↔ (lookup k m).isSome) :=
  ⟨⟨lookup_of_mem h, lookup_mem⟩, h, mem_keys_iff⟩

section
variable {K V : Type} [DecidableEq K] [DecidableEq V]

theorem specAfterSet_of (m post : List (K × V)) (k : K) (v : V) (hm : NodupKeys m) (hp : NodupKeys post)
    (hl : ∀ k', lookup k' post = if k' = k then some v else lookup k' m) : specAfterSet m post k v = true := by
  simp only [specAfterSet, Bool.and_eq_true, decide_eq_true_eq, beq_iff_eq, Bool.or_eq_true,
    all_iff_lookup hp, all_iff_lookup hm, hl]
  refine ⟨⟨⟨hp, if_pos trivial⟩, fun k' v' h => ?_⟩, fun k' v' h => ?_⟩
  · show k' = k ∨ lookup k' m = some v'
    by_cases hk : k' = k
    · exact .inl hk
    · exact .inr (by rwa [if_neg hk] at h)
  · show k' = k ∨ (if k' = k then some v else lookup k' m) = some v'
    by_cases hk : k' = k
    · exact .inl hk
    · exact .inr (by rwa [if_neg hk])

theorem specAfterRemove_of (m post : List (K × V)) (ks : List K) (hm : NodupKeys m) (hp : NodupKeys post)
    (hl : ∀ k', lookup k' post = if k' ∈ ks then none else lookup k' m) : specAfterRemove m post ks = true := by
  simp only [specAfterRemove, Bool.and_eq_true, decide_eq_true_eq, beq_iff_eq, Bool.or_eq_true, Bool.not_eq_true',
    List.contains_eq_mem, decide_eq_false_iff_not, all_iff_lookup hp, all_iff_lookup hm, hl]
  refine ⟨⟨hp, fun k' v' h => ?_⟩, fun k' v' h => ?_⟩
  · show k' ∉ ks ∧ lookup k' m = some v'
    by_cases hk : k' ∈ ks
    · rw [if_pos hk] at h; cases h
    · exact ⟨hk, by rwa [if_neg hk] at h⟩
  · show k' ∈ ks ∨ (if k' ∈ ks then none else lookup k' m) = some v'
    by_cases hk : k' ∈ ks
    · exact .inl hk
    · exact .inr (by rwa [if_neg hk])

end

variable [DecidableEq V]

omit [Inhabited K] [Inhabited V] in
/-- what `mapAllowed` asks of a returning call: the expected result, and a test of the new map -/
theorem ret_ok {r : ARes K V} {b : Bool} (hb : b = true) : (r == r && b) = true := by
  rw [beq_self_eq_true, hb]; rfl

/-- **Go-map refinement, one step**: every call of the Map model is allowed by the executable
    specification that also judges the real observations (`mapAllowed`), for every map with
    distinct keys and every operation. -/
theorem C14_step_refines (m : List (K × V)) (h : NodupKeys m) (op : MOp K V) :
    mapAllowed m op (mapStep m op) = true := by
  cases op with
  | setValue k v =>
    dsimp only [mapAllowed, mapStep]
    exact ret_ok (specAfterSet_of m _ k v h (h.mset k v) (lookup_mset m k · v))
  | removeValue k =>
    dsimp only [mapAllowed, mapStep]; rw [mapRemoveValue_eq]
    exact ret_ok (specAfterRemove_of m _ [k] h (h.mremove k) fun k' => by simp [lookup_mremove])
  | removeValues ks =>
    dsimp only [mapAllowed, mapStep]; rw [mapRemoveValues_eq]
    exact ret_ok (specAfterRemove_of m _ ks h (h.foldl_mremove ks) (lookup_foldl_mremove · ks m))
  | make ps =>
    have hn : NodupKeys (mapMakeFrom ps) := nodupKeys_nil.foldl_mset ps
    dsimp only [mapAllowed, mapStep]
    simp only [beq_self_eq_true, Bool.true_and, Bool.and_eq_true, decide_eq_true_eq, beq_iff_eq,
      all_iff_lookup hn, List.all_eq_true, (C14_make_last_wins ps _).1, ← mem_keys_iff]
    refine ⟨⟨hn, fun _ _ h => h⟩, fun p hp => ?_⟩
    show p.1 ∈ ps.reverse.map (·.1)
    exact List.mem_map.mpr ⟨p, List.mem_reverse.mpr hp, rfl⟩
  | getValue k | getValues ks | removeAll | getSize | isEmpty =>
    dsimp only [mapAllowed, mapStep]; exact ret_ok (beq_self_eq_true _)
  | getKeys | asArray | iterate =>
    dsimp only [mapAllowed, mapStep]
    exact Bool.and_eq_true_iff.mpr ⟨beq_self_eq_true _, List.isPerm_iff.mpr (.refl _)⟩

example : lookup (2 : Int) (mset [((1 : Int), (10 : Int)), (2, 20)] 2 99) = some 99 := by decide
example : NodupKeys [((1 : Int), (10 : Int)), (2, 20)] := by simp [NodupKeys]

end CM
