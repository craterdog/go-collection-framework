/-
  T3L obligations for C01 (array.go): `array_.GetValue`, `GetValues`, `SetValue`, `SetValues`, `AsArray`, `GetSize`,
  `IsEmpty`, TRANSLATED from the current text of array.go onto the memory of arrays (the receiver is a slice;
  indexing, re-slicing, `make` and `copy` with Go's bounds checks), compute what `Model/Seq.lean` computes on the
  array's contents.  (`toZeroBased` is the Seq model's in both; its own tie is `toZeroBased_tie`.)
-/
import CollectionModel.Generated.LoopsArray
import CollectionModel.Lemmas.GoSemLemmas
import CollectionModel.Lemmas.SeqLemmas
namespace CM
namespace Tie
open CM.GoSem CM.Seq

variable {α : Type}

/-- the slice that shows the whole of an array of `n` values -/
def wholeA (a n : Nat) : Slice := ⟨a, 0, n, n⟩

variable [Inhabited α]

/-- `array_.GetValue` as written in array.go = `Seq.getValue` on the contents -/
theorem arrayGetValue_tie (mem : Mem α) (p : Nat) (index : Int) (fuel : Nat) :
    Generated.arrayGetValue (wholeA p (mem.arr p).length) index mem fuel
      = some ((Seq.getValue (mem.arr p) index).map (fun x => (x, mem))) := by
  unfold Generated.arrayGetValue Seq.getValue wholeA
  dsimp only
  cases h : Seq.toZeroBased (mem.arr p).length index with
  | error e => rfl
  | ok i =>
    rw [natResult_ok, bindE_ok, read_ok mem ⟨p, 0, _, _⟩ i (Seq.toZeroBased_lt h), Nat.zero_add]
    rfl

/-- `array_.SetValue` as written in array.go = `Seq.setValue` on the contents -/
theorem arraySetValue_tie (mem : Mem α) (p : Nat) (index : Int) (value : α) (fuel : Nat) :
    Generated.arraySetValue (wholeA p (mem.arr p).length) index value mem fuel
      = some ((Seq.setValue (mem.arr p) index value).map (fun l => mem.setArr p l)) := by
  unfold Generated.arraySetValue Seq.setValue wholeA
  dsimp only
  cases h : Seq.toZeroBased (mem.arr p).length index with
  | error e => rfl
  | ok i =>
    rw [natResult_ok, bindE_ok, write_ok mem ⟨p, 0, _, _⟩ i value (Seq.toZeroBased_lt h), Nat.zero_add]
    rfl

theorem view_wholeA (mem : Mem α) (p : Nat) : mem.view (wholeA p (mem.arr p).length) = mem.arr p := by
  simp [Mem.view, wholeA]

/-! the `_eq` statements say which memory a call leaves; the `_tie` statements after them keep what a caller may use -/

theorem arrayAsArray_eq (mem : Mem α) (p fuel : Nat) (hp : p < mem.length)
    (hint : IsInt64 ((mem.arr p).length : Int)) :
    Generated.arrayAsArray (wholeA p (mem.arr p).length) mem fuel
      = some (.ok (wholeA mem.length (mem.arr p).length, mem ++ [mem.arr p])) :=
  (make_copy mem (wholeA p _) ⟨hp, Nat.le_of_eq (Nat.zero_add _)⟩ hint).trans
    (by rw [view_wholeA, wholeA])

/-- `array_.AsArray` as written in array.go: a fresh array with the same contents -/
theorem arrayAsArray_tie (mem : Mem α) (p : Nat) (fuel : Nat) (hp : p < mem.length) (hint : IsInt64 ((mem.arr p).length : Int)) :
    ∃ mem', Generated.arrayAsArray (wholeA p (mem.arr p).length) mem fuel = some (.ok (wholeA mem.length (mem.arr p).length, mem'))
      ∧ mem'.arr mem.length = mem.arr p ∧ mem'.length = mem.length + 1 ∧ ∀ c, c < mem.length → mem'.arr c = mem.arr c :=
  ⟨_, arrayAsArray_eq mem p fuel hp hint, arr_fresh mem _⟩

theorem arrayGetValues_eq (mem : Mem α) (p : Nat) (first last : Int) (fuel : Nat) (hp : p < mem.length)
    (hint : IsInt64 (((mem.arr p).length : Int) + 1)) :
    Generated.arrayGetValues (wholeA p (mem.arr p).length) first last mem fuel
      = some ((Seq.getValues (mem.arr p) first last).map fun data =>
          (wholeA mem.length data.length, mem ++ [data])) := by
  unfold Generated.arrayGetValues Seq.getValues wholeA
  dsimp only
  cases hf : Seq.toZeroBased (mem.arr p).length first with
  | error e => rfl
  | ok f =>
    cases hl : Seq.toZeroBased (mem.arr p).length last with
    | error e => rfl
    | ok la =>
      have h1 := Seq.toZeroBased_lt hf
      have h2 := Seq.toZeroBased_lt hl
      have hlen : IsInt64 ((mem.arr p).length : Int) := IsInt64.natCast_le (n := (mem.arr p).length + 1) hint (Nat.le_succ _)
      rw [natResult_ok, bindE_ok, natResult_ok, bindE_ok, w64_succ_lt h2 hlen, w64_span hlen h2 (Nat.le_of_lt h1)]
      dsimp only
      rcases span_cases la f with ⟨_, hgt⟩ | ⟨_, hd, hle⟩
      · rw [if_pos hgt, show Slice.sub _ (f : Int) ((la + 1 : Nat) : Int) = .error .rt from
          if_neg fun h => Nat.not_le_of_gt hgt (Int.ofNat_le.mp h.2.1)]
        rfl
      · rw [if_neg (Nat.not_lt.mpr hle), sub_ok ⟨p, 0, _, _⟩ f (la + 1) hle h2, bindE_ok, Nat.zero_add, hd]
        exact make_copy mem ⟨p, f, la + 1 - f, _⟩ ⟨hp, Nat.le_trans (Nat.le_of_eq (Nat.add_sub_cancel' hle)) h2⟩
          (hlen.natCast_le (Nat.le_trans (Nat.sub_le _ _) h2))

/-- `array_.GetValues` as written in array.go = `Seq.getValues` on the contents, delivered in a fresh array -/
theorem arrayGetValues_tie (mem : Mem α) (p : Nat) (first last : Int) (fuel : Nat) (hp : p < mem.length)
    (hint : IsInt64 (((mem.arr p).length : Int) + 1)) :
    match Seq.getValues (mem.arr p) first last with
    | .error e => Generated.arrayGetValues (wholeA p (mem.arr p).length) first last mem fuel = some (.error e)
    | .ok data => ∃ mem', Generated.arrayGetValues (wholeA p (mem.arr p).length) first last mem fuel
          = some (.ok (wholeA mem.length data.length, mem'))
        ∧ mem'.arr mem.length = data ∧ mem'.length = mem.length + 1 ∧ ∀ c, c < mem.length → mem'.arr c = mem.arr c := by
  rw [arrayGetValues_eq mem p first last fuel hp hint]
  cases Seq.getValues (mem.arr p) first last with
  | error e => rfl
  | ok data => exact ⟨_, rfl, arr_fresh mem data⟩

theorem arraySetValues_eq (mem : Mem α) (p : Nat) (index : Int) (vs : List α) (fuel : Nat) (hp : p < mem.length)
    (hint : IsInt64 (((mem.arr p).length : Int) + (vs.length : Int) + 1)) :
    Generated.arraySetValues (wholeA p (mem.arr p).length) index vs mem fuel
      = some ((Seq.setValues (mem.arr p) index vs).map fun l => (mem ++ [vs]).setArr p l) := by
  unfold Generated.arraySetValues Seq.setValues wholeA
  dsimp only
  cases hf : Seq.toZeroBased (mem.arr p).length index with
  | error e => rfl
  | ok first =>
    have h1 := Seq.toZeroBased_lt hf
    rw [natResult_ok, bindE_ok, w64_natCast (n := (mem.arr p).length + vs.length + 1) hint
      (Int.natCast_add first vs.length).symm (Nat.le_succ_of_le (Nat.add_le_add_right (Nat.le_of_lt h1) _))]
    dsimp only
    by_cases hgt : first + vs.length > (mem.arr p).length
    · rw [if_pos hgt, if_pos (decide_eq_true (Int.ofNat_lt.mpr hgt))]; rfl
    · rw [if_neg hgt, if_neg (by rw [decide_eq_true_eq]; exact fun h => hgt (Int.ofNat_lt.mp h)),
        sub_ok ⟨p, 0, _, _⟩ first (first + vs.length) (Nat.le_add_right _ _) (Nat.le_of_not_gt hgt), bindE_ok]
      -- `Seq.overwrite` (the model's `copy`) and `splice` (the memory's) are the same function, by `rfl`
      exact congrArg (fun m' => some (Except.ok m'))
        ((copy_alloc mem vs ⟨p, 0 + first, _, _⟩ hp (Nat.add_sub_cancel_left ..)).trans (by rw [Nat.zero_add]; rfl))

/-- `array_.SetValues` as written in array.go = `Seq.setValues` on the contents (the operand's `AsArray()` is a fresh
    array, so the memory grows by it) -/
theorem arraySetValues_tie (mem : Mem α) (p : Nat) (index : Int) (vs : List α) (fuel : Nat) (hp : p < mem.length)
    (hint : IsInt64 (((mem.arr p).length : Int) + (vs.length : Int) + 1)) :
    match Seq.setValues (mem.arr p) index vs with
    | .error e => Generated.arraySetValues (wholeA p (mem.arr p).length) index vs mem fuel = some (.error e)
    | .ok l => ∃ mem', Generated.arraySetValues (wholeA p (mem.arr p).length) index vs mem fuel = some (.ok mem')
        ∧ mem'.arr p = l ∧ ∀ c, c < mem.length → c ≠ p → mem'.arr c = mem.arr c := by
  rw [arraySetValues_eq mem p index vs fuel hp hint]
  cases Seq.setValues (mem.arr p) index vs with
  | error e => rfl
  | ok l =>
    refine ⟨_, rfl, arr_setArr_same _ _ _ (by rw [List.length_append]; exact Nat.lt_succ_of_lt hp), fun c hc hcp => ?_⟩
    rw [arr_setArr_other _ _ _ _ hcp, arr_append_new, if_neg (Nat.ne_of_lt hc)]

/-- `array_.GetSize`, `array_.IsEmpty` as written in array.go -/
theorem arrayGetSize_tie (mem : Mem α) (p : Nat) (fuel : Nat) :
    Generated.arrayGetSize (wholeA p (mem.arr p).length) mem fuel = some (.ok (((mem.arr p).length : Int), mem)) := rfl

theorem arrayIsEmpty_tie (mem : Mem α) (p : Nat) (fuel : Nat) :
    Generated.arrayIsEmpty (wholeA p (mem.arr p).length) mem fuel = some (.ok ((((mem.arr p).length : Int) == 0), mem)) := rfl

/-! ### the class constructors: what they hand out is a fresh array (C18: nothing passed in is kept) -/

/-- `arrayClass_.MakeFromArray` as written in array.go: a fresh array (a new array id) with the contents of the Go array
    passed in, which is not touched -/
theorem arrayClassMakeFromArray_tie (mem : Mem α) (p : Nat) (fuel : Nat) (hp : p < mem.length) (hint : IsInt64 ((mem.arr p).length : Int)) :
    ∃ mem', Generated.arrayClassMakeFromArray (wholeA p (mem.arr p).length) mem fuel
        = some (.ok (wholeA mem.length (mem.arr p).length, mem'))
      ∧ mem'.arr mem.length = mem.arr p ∧ mem'.length = mem.length + 1 ∧ ∀ c, c < mem.length → mem'.arr c = mem.arr c :=
  -- the constructor and `AsArray` are translated to the same text
  arrayAsArray_tie mem p fuel hp hint

/-- `arrayClass_.Make` as written in array.go: a fresh array of zero values -/
theorem arrayClassMake_tie (mem : Mem α) (n : Nat) (fuel : Nat) (h : IsInt64 (n : Int)) :
    Generated.arrayClassMake (n : Int) mem fuel
      = some (.ok (wholeA mem.length n, mem ++ [List.replicate n (default : α)])) := by
  unfold Generated.arrayClassMake
  rw [make_ok mem n h]; rfl

/-- … and a size beyond the range of `int` is a Go runtime error, not a huge array -/
theorem arrayClassMake_huge (mem : Mem α) (size : Int) (fuel : Nat) (h : 9223372036854775808 ≤ size) :
    Generated.arrayClassMake size mem fuel = some (.error .rt) := by
  unfold Generated.arrayClassMake Mem.make
  rw [if_neg fun c => Int.not_le.mpr c.2 h]; rfl

/-! ### `GetIterator`: the iterator walks over a private copy (C17: an iterator enumerates the collection as it was) -/

/-- `array_.GetIterator` as written in array.go: the iterator is made from `v.AsArray()`, a NEW array with the current
    contents -/
theorem arrayGetIterator_tie (mem : Mem α) (p : Nat) (fuel : Nat) (hp : p < mem.length) (hint : IsInt64 ((mem.arr p).length : Int)) :
    ∃ mem', Generated.arrayGetIterator (wholeA p (mem.arr p).length) mem fuel
        = some (.ok (wholeA mem.length (mem.arr p).length, mem'))
      ∧ mem'.arr mem.length = mem.arr p ∧ mem'.length = mem.length + 1 ∧ ∀ c, c < mem.length → mem'.arr c = mem.arr c := by
  refine ⟨_, ?_, arr_fresh mem _⟩
  unfold Generated.arrayGetIterator
  rw [arrayAsArray_eq mem p fuel hp hint]
  rfl

/-- … so a later `SetValue` on the array (any write to array `p`) leaves what the iterator walks over untouched -/
theorem iterator_snapshot_unaffected (mem' : Mem α) (p it : Nat) (l : List α) (h : it ≠ p) :
    (mem'.setArr p l).arr it = mem'.arr it := arr_setArr_other mem' p it l h

/-- non-vacuity -/
example : Generated.arrayGetValue (wholeA 0 3) (-1 : Int) [[(10 : Int), 20, 30]] 1 = some (.ok (30, [[10, 20, 30]])) := by rfl
example : Generated.arrayGetValue (wholeA 0 3) (4 : Int) [[(10 : Int), 20, 30]] 1 = some (.error .outOfRange) := by rfl

end Tie
end CM
