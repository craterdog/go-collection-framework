/-
  Completeness of the reference parser on the token sequences of sentences: the alternatives a sentence does not
  take refuse, and, by structural recursion over the sentence, every method accepts exactly the tokens of its part
  of the sentence with that part's intended meaning.  These are statements about functions of the token list: no
  parser state, no fuel: this file needs `ParseRef` only.  `Props/C11Complete` reads `rcSource` through
  `parseTokens_sim`; `ParseCompleteModel` carries the statements over to the methods of the model one by one.
-/
import CollectionModel.Lemmas.ParseRef
import CollectionModel.Model.Cdcn.Sentence
namespace CM
namespace Cdcn
open RefOut

variable (env : Env)

theorem SValue.mean_coll {lb : Token} {items : SItems} {rb lp ty rp : Token} {x : Val}
    (h : (SValue.coll lb items rb lp ty rp).mean env = some x) :
    ∃ vs, items.mean env = some vs ∧ collOf env.mkSet ty.value vs = some x := by
  simp only [SValue.mean] at h
  cases hi : items.mean env <;> simp only [hi] at h
  · cases h
  · exact ⟨_, rfl, h⟩

theorem SItems.mean_inlineValues {v : SValue} {more : SVals} {xs : List Val} (h : (SItems.inlineValues v more).mean env = some xs) :
    ∃ x ys, v.mean env = some x ∧ more.mean env = some ys ∧ xs = x :: ys := by
  simp only [SItems.mean] at h
  cases hv : v.mean env <;> cases hr : more.mean env <;> simp [hv, hr] at h
  exact ⟨_, _, rfl, rfl, h.symm⟩

theorem SItems.mean_inlineAssocs {a : SAssoc} {more : SAssocs} {xs : List Val} (h : (SItems.inlineAssocs a more).mean env = some xs) :
    ∃ p ps, a.mean env = some p ∧ more.mean env = some ps ∧ xs = Val.catalogOf (p :: ps) := by
  simp only [SItems.mean] at h
  cases hv : a.mean env <;> cases hr : more.mean env <;> simp [hv, hr] at h
  exact ⟨_, _, rfl, rfl, h.symm⟩

theorem SVals.mean_cons {sep : Token} {v : SValue} {rest : SVals} {xs : List Val} (h : (SVals.cons sep v rest).mean env = some xs) :
    ∃ y ys, v.mean env = some y ∧ rest.mean env = some ys ∧ xs = y :: ys := by
  simp only [SVals.mean] at h
  cases hv : v.mean env <;> cases hr : rest.mean env <;> simp [hv, hr] at h
  exact ⟨_, _, rfl, rfl, h.symm⟩

theorem SAssoc.mean_mk {key colon : Token} {v : SValue} {p : Val × Val} (h : (SAssoc.mk key colon v).mean env = some p) :
    ∃ k x, env.conv key = some k ∧ v.mean env = some x ∧ p = (k, x) := by
  simp only [SAssoc.mean] at h
  cases hv : env.conv key <;> cases hr : v.mean env <;> simp [hv, hr] at h
  exact ⟨_, _, rfl, rfl, h.symm⟩

theorem SAssocs.mean_cons {sep : Token} {a : SAssoc} {rest : SAssocs} {ps : List (Val × Val)}
    (h : (SAssocs.cons sep a rest).mean env = some ps) :
    ∃ q qs, a.mean env = some q ∧ rest.mean env = some qs ∧ ps = q :: qs := by
  simp only [SAssocs.mean] at h
  cases hv : a.mean env <;> cases hr : rest.mean env <;> simp [hv, hr] at h
  exact ⟨_, _, rfl, rfl, h.symm⟩

theorem delim_tt {t : Token} {a : String} (h : isDelim t a = true) : t.tt = .delimiter :=
  beq_iff_eq.mp (Bool.and_eq_true_iff.mp h).1

/-- `isDelim t a` is `tokMatches t .delimiter (some a)` by definition (and `isEol t` is `tokMatches t .eol none`
    but for a `&& true`) -/
theorem delim_matches (t : Token) (a : String) (h : isDelim t a = true) : tokMatches t TT.delimiter (some a) = true := h

theorem eol_matches (t : Token) (h : isEol t = true) : tokMatches t TT.eol none = true := by
  rw [tokMatches, Bool.and_true]; exact h

theorem eol_mismatch (t : Token) (h : isEol t = false) : tokMatches t TT.eol none = false := by
  rw [tokMatches, Bool.and_true]; exact h

theorem delim_not_literal (t : Token) (str : String) (h : isDelim t str = true) : isLiteralKind t.tt = false ∧ t.tt ≠ .error := by
  rw [delim_tt h]; exact ⟨rfl, by decide⟩

theorem eol_not_literal (t : Token) (h : isEol t = true) : isLiteralKind t.tt = false ∧ t.tt ≠ .error := by
  rw [beq_iff_eq.mp h]; exact ⟨rfl, by decide⟩

theorem delim_ne (t : Token) (a b : String) (h : isDelim t a = true) (hab : a.toList.map ch ≠ b.toList.map ch) :
    isDelim t b = false := by
  simp only [isDelim, Bool.and_eq_true, beq_iff_eq] at h
  simp only [isDelim, h.1, beq_self_eq_true, Bool.true_and, beq_eq_false_iff_ne, h.2]
  exact hab

theorem delim_not_eol (t : Token) (a : String) (h : isDelim t a = true) : isEol t = false := by
  rw [isEol, delim_tt h]; rfl

theorem eol_not_delim (t : Token) (a : String) (h : isEol t = true) : isDelim t a = false := by
  rw [isDelim, beq_iff_eq.mp h]; rfl

theorem literal_not_delim (t : Token) (a : String) (h : isLiteralKind t.tt = true) : isDelim t a = false := by
  cases hd : isDelim t a with
  | false => rfl
  | true => rw [(delim_not_literal t a hd).1] at h; cases h

theorem literal_not_eol (t : Token) (h : isLiteralKind t.tt = true) : isEol t = false := by
  cases he : isEol t with
  | false => rfl
  | true => rw [(eol_not_literal t he).1] at h; cases h

theorem SValue.head_spec (v : SValue) (hg : v.Good) :
    (∃ t, v = .lit t ∧ isLiteralKind t.tt = true) ∨ (∃ t ts, v.toks = t :: ts ∧ isDelim t "[" = true) := by
  cases v with
  | lit t => exact Or.inl ⟨t, rfl, by simpa [SValue.Good] using hg⟩
  | coll lb items rb lp ty rp =>
    simp only [SValue.Good] at hg
    exact Or.inr ⟨lb, items.toks ++ [rb, lp, ty, rp], by simp [SValue.toks], hg.1⟩

theorem SValue.head_class (v : SValue) (hg : v.Good) :
    ∃ t ts, v.toks = t :: ts ∧ isDelim t ":" = false ∧ isDelim t "]" = false ∧ isEol t = false ∧ t.tt ≠ .error := by
  rcases SValue.head_spec v hg with ⟨t, rfl, hl⟩ | ⟨t, ts, htoks, hlb⟩
  · exact ⟨t, [], rfl, literal_not_delim t ":" hl, literal_not_delim t "]" hl, literal_not_eol t hl, literal_ne_error t hl⟩
  · exact ⟨t, ts, htoks, delim_ne t "[" ":" hlb (by decide), delim_ne t "[" "]" hlb (by decide), delim_not_eol t "[" hlb,
      (delim_not_literal t "[" hlb).2⟩

/-- the closing bracket that follows the items of a sequence -/
def ClosesWith (rest : List Token) : Prop := ∃ rb r', rest = rb :: r' ∧ isDelim rb "]" = true

theorem refToken_hit {t : Token} {tt : TT} {val : Option String} (rest : List Token) (h : tokMatches t tt val = true) (hne : tt ≠ .error) :
    refToken tt val (t :: rest) = ret t.value rest := by
  rw [refToken, if_neg (tokMatches_tt h ▸ hne), if_pos h]

theorem refToken_miss {t : Token} {tt : TT} {val : Option String} (rest : List Token) (h : tokMatches t tt val = false) (hne : t.tt ≠ .error) :
    refToken tt val (t :: rest) = some .refuse := by
  rw [refToken, if_neg hne, if_neg (by rw [h]; decide)]

theorem refDelim_hit {t : Token} {a : String} (rest : List Token) (h : isDelim t a = true) :
    refToken .delimiter (some a) (t :: rest) = ret t.value rest :=
  refToken_hit (val := some a) rest h (by decide)

theorem refDelim_miss {t : Token} {a : String} (rest : List Token) (h : isDelim t a = false) (hne : t.tt ≠ .error) :
    refToken .delimiter (some a) (t :: rest) = some .refuse :=
  refToken_miss (val := some a) rest h hne

theorem refEol_hit {t : Token} (rest : List Token) (h : isEol t = true) : refToken .eol none (t :: rest) = ret t.value rest :=
  refToken_hit rest (eol_matches t h) (by decide)

theorem refIntrinsic_hit {t : Token} {v : Val} (rest : List Token) (hl : isLiteralKind t.tt = true) (hc : env.conv t = some v) :
    refIntrinsic env (t :: rest) = ret v rest := by
  rw [refIntrinsic, if_neg (literal_ne_error t hl), if_pos hl, hc]

theorem refIntrinsic_miss {t : Token} (rest : List Token) (hl : isLiteralKind t.tt = false) (hne : t.tt ≠ .error) :
    refIntrinsic env (t :: rest) = some .refuse := by
  rw [refIntrinsic, if_neg hne, if_neg (by rw [hl]; decide)]

theorem refValue_refuse {t : Token} (rest : List Token) (hl : isLiteralKind t.tt = false) (hb : isDelim t "[" = false) (hne : t.tt ≠ .error) :
    refValue env (t :: rest) = some .refuse := by
  rw [refValue, refIntrinsic_miss env rest hl hne, seq_refuse, refCollection, refSequence, refDelim_miss rest hb hne, seq_refuse, seq_refuse]

theorem refAssociation_refuse1 {t : Token} (rest : List Token) (hl : isLiteralKind t.tt = false) (hne : t.tt ≠ .error) :
    refAssociation env (t :: rest) = some .refuse := by
  rw [refAssociation, refIntrinsic_miss env rest hl hne, seq_refuse]

theorem refAssociation_refuse2 {t u : Token} {v : Val} (rest : List Token) (hl : isLiteralKind t.tt = true) (hc : env.conv t = some v)
    (hu : isDelim u ":" = false) (hne : u.tt ≠ .error) : refAssociation env (t :: u :: rest) = some .refuse := by
  rw [refAssociation, refIntrinsic_hit env _ hl hc, seq_accept, refDelim_miss rest hu hne, seq_refuse]

/-- no association starts with the first of a list of values: behind a literal comes a separator `p` or what follows
    the list (`u0`), and neither is a ":" -/
theorem refAssociation_refuse_values (v : SValue) (x : Val) (more : SVals) {p : Token → Bool} (u0 : Token) (r0 : List Token)
    (hg : v.Good) (hm : v.mean env = some x) (hgm : more.Good p) (hp : ∀ u, p u = true → isDelim u ":" = false ∧ u.tt ≠ .error)
    (h0 : isDelim u0 ":" = false ∧ u0.tt ≠ .error) : refAssociation env (v.toks ++ (more.toks ++ u0 :: r0)) = some .refuse := by
  obtain ⟨u, r, hu, hcolon, hne⟩ : ∃ u r, more.toks ++ u0 :: r0 = u :: r ∧ isDelim u ":" = false ∧ u.tt ≠ .error := by
    cases more with
    | nil => exact ⟨u0, r0, rfl, h0⟩
    | cons sep w rest' => exact ⟨sep, _, rfl, hp sep hgm.1⟩
  rw [hu]
  rcases SValue.head_spec v hg with ⟨t, rfl, hl⟩ | ⟨t, ts, htoks, hlb⟩
  · exact refAssociation_refuse2 env r hl (by simpa [SValue.mean] using hm) hcolon hne
  · rw [htoks]; exact refAssociation_refuse1 env _ (delim_not_literal t "[" hlb).1 (delim_not_literal t "[" hlb).2

theorem refAssociations_refuse {t : Token} (rest : List Token) (hc : isDelim t ":" = false) (he : isEol t = false) (hne : t.tt ≠ .error)
    (ha : refAssociation env (t :: rest) = some .refuse) : refAssociations env (t :: rest) = some .refuse := by
  rw [refAssociations, refInlineAssociations, refMultilineAssociations]
  simp only [refDelim_miss rest hc hne, ha, refToken_miss rest (eol_mismatch t he) hne, seq_refuse]

theorem refAssociations_refuse_eol {e : Token} (rest : List Token) (he : isEol e = true)
    (ha : refAssociation env rest = some .refuse) : refAssociations env (e :: rest) = some .refuse := by
  obtain ⟨hel, hene⟩ := eol_not_literal e he
  rw [refAssociations, refInlineAssociations, refMultilineAssociations]
  simp only [refDelim_miss rest (eol_not_delim e ":" he) hene, refAssociation_refuse1 env rest hel hene, refEol_hit rest he, ha,
    seq_refuse, seq_accept]

/-- the closing bracket is no separator and starts neither a value nor an association: every list ends before it -/
theorem ClosesWith.ends {rest : List Token} (h : ClosesWith rest) :
    refToken .delimiter (some ",") rest = some .refuse ∧ refValue env rest = some .refuse ∧
      refAssociation env rest = some .refuse := by
  obtain ⟨rb, r', rfl, hb⟩ := h
  obtain ⟨hl, hne⟩ := delim_not_literal rb "]" hb
  exact ⟨refDelim_miss r' (delim_ne rb "]" "," hb (by decide)) hne,
    refValue_refuse env r' hl (delim_ne rb "]" "[" hb (by decide)) hne, refAssociation_refuse1 env r' hl hne⟩

/-- the items the loops have built from a first pair on are the catalog of the pairs, by definition -/
theorem catItems_fold (p : Val × Val) (ps : List (Val × Val)) :
    catItems (ps.foldl (fun a p => Val.catalogSet a p.1 p.2) (Val.catalogSet [] p.1 p.2)) = Val.catalogOf (p :: ps) := rfl

/- Completeness of the reference (`rc`), one theorem for each nonterminal of the sentence grammar; the four loops run
   behind a first element over the rest of the list: `rcIVL`/`rcMVL` the inline / multi-line values loop, `rcIAL`/`rcMAL` the inline / multi-line
   associations loop.  Each case unfolds the methods the sentence goes through and evaluates them on its tokens. -/
mutual

theorem rcValue : ∀ (v : SValue) (rest : List Token) (x : Val), v.Good → v.mean env = some x →
    refValue env (v.toks ++ rest) = ret x rest
  | .lit t, rest, x, hg, hm => by
    simp only [SValue.Good] at hg
    simp only [SValue.mean] at hm
    rw [refValue]
    simp only [SValue.toks, List.singleton_append, refIntrinsic_hit env rest hg hm, seq_accept]
  | .coll lb items rb lp ty rp, rest, x, hg, hm => by
    obtain ⟨hlb, hgi, hrb, hlp, hty, hrp⟩ := hg
    obtain ⟨vs, hmi, hm⟩ := SValue.mean_coll env hm
    obtain ⟨hll, hle⟩ := delim_not_literal lb "[" hlb
    have hi := rcItems items (rb :: lp :: ty :: rp :: rest) vs hgi hmi ⟨rb, _, rfl, hrb⟩
    have htype : tokMatches ty .type none = true := by simp [tokMatches, hty]
    rw [refValue, refCollection, refSequence]
    simp only [SValue.toks, List.cons_append, List.append_assoc, List.nil_append, refIntrinsic_miss env _ hll hle, refDelim_hit _ hlb,
      hi, refDelim_hit _ hrb, refDelim_hit _ hlp, refToken_hit (val := none) _ htype (by decide), refDelim_hit _ hrp,
      refMk, hm, seq_accept, seq_refuse]

theorem rcItems : ∀ (i : SItems) (rest : List Token) (xs : List Val), i.Good → i.mean env = some xs → ClosesWith rest →
    refItems env (i.toks ++ rest) = ret xs rest
  | .noValues, rest, xs, _, hm, hc => by
    cases hm
    obtain ⟨rb, r', rfl, hb⟩ := hc
    obtain ⟨hrbl, hrbe⟩ := delim_not_literal rb "]" hb
    rw [refItems, refValues]
    simp only [SItems.toks, List.nil_append, refAssociations_refuse env r' (delim_ne rb "]" ":" hb (by decide)) (delim_not_eol rb "]" hb) hrbe
      (refAssociation_refuse1 env r' hrbl hrbe), refDelim_hit r' hb, seq_refuse, seq_accept]
  | .inlineValues v more, rest, xs, hg, hm, hc => by
    obtain ⟨hgv, hgm⟩ := hg
    obtain ⟨x, ys, hmv, hmm, rfl⟩ := SItems.mean_inlineValues env hm
    have hend := (hc.ends env).1
    obtain ⟨rb, r', hr, hb⟩ := hc
    -- the associations alternatives refuse: the first token is a literal or "[", and no ":" follows a literal
    obtain ⟨t, ts, htoks, htcolon, htrb, hteol, htne⟩ := SValue.head_class v hgv
    have ha := refAssociation_refuse_values env v x more rb r' hgv hmv hgm
      (fun u h => ⟨delim_ne u "," ":" h (by decide), (delim_not_literal u "," h).2⟩)
      ⟨delim_ne rb "]" ":" hb (by decide), (delim_not_literal rb "]" hb).2⟩
    rw [← hr, htoks, List.cons_append] at ha
    have hl := rcIVL more rest [] x ys hgm hmm hend
    have hv := rcValue v (more.toks ++ rest) x hgv hmv
    rw [htoks, List.cons_append] at hv
    rw [refItems, refValues, refInlineValues]
    simp only [SItems.toks, List.append_assoc, htoks, List.cons_append, refAssociations_refuse env _ htcolon hteol htne ha,
      refDelim_miss _ htrb htne, hv, hl, seq_refuse, seq_accept, List.nil_append]
  | .multiValues e v more last, rest, xs, hg, hm, hc => by
    obtain ⟨hge, hgv, hgm, hgl⟩ := hg
    -- the meaning does not depend on the layout
    obtain ⟨x, ys, hmv, hmm, rfl⟩ := SItems.mean_inlineValues env (v := v) (more := more) hm
    obtain ⟨hel, hene⟩ := eol_not_literal e hge
    -- the associations alternatives refuse behind the end of line
    have ha := refAssociation_refuse_values env v x more last rest hgv hmv hgm
      (fun u h => ⟨eol_not_delim u ":" h, (eol_not_literal u h).2⟩) ⟨eol_not_delim last ":" hgl, (eol_not_literal last hgl).2⟩
    have hl := rcMVL more rest last [] x ys hgm hmm hgl (hc.ends env).2.1
    have hv := rcValue v (more.toks ++ last :: rest) x hgv hmv
    rw [refItems, refValues, refInlineValues, refMultilineValues]
    simp only [SItems.toks, List.cons_append, List.append_assoc, refAssociations_refuse_eol env _ hge ha,
      refDelim_miss _ (eol_not_delim e "]" hge) hene, refValue_refuse env _ hel (eol_not_delim e "[" hge) hene, refEol_hit _ hge,
      hv, hl, seq_refuse, seq_accept, List.nil_append]
  | .noAssocs colon, rest, xs, hg, hm, hc => by
    cases hm
    rw [refItems, refAssociations]
    simp only [SItems.toks, List.singleton_append, refDelim_hit rest hg, seq_accept]
  | .inlineAssocs a more, rest, xs, hg, hm, hc => by
    obtain ⟨hga, hgm⟩ := hg
    obtain ⟨p, ps, hma, hmm, rfl⟩ := SItems.mean_inlineAssocs env hm
    have hl := rcIAL more rest [] p.1 p.2 ps hgm hmm (hc.ends env).1
    have hv := rcAssoc a (more.toks ++ rest) p hga hma
    obtain ⟨key, colon, v⟩ := a
    have hkl : isLiteralKind key.tt = true := hga.1
    simp only [SAssoc.toks, List.cons_append] at hv
    rw [refItems, refAssociations, refInlineAssociations]
    simp only [SItems.toks, SAssoc.toks, List.append_assoc, List.cons_append,
      refDelim_miss _ (literal_not_delim key ":" hkl) (literal_ne_error key hkl), hv, hl, seq_refuse, seq_accept, catItems_fold]
  | .multiAssocs e a more last, rest, xs, hg, hm, hc => by
    obtain ⟨hge, hga, hgm, hgl⟩ := hg
    -- the meaning does not depend on the layout
    obtain ⟨p, ps, hma, hmm, rfl⟩ := SItems.mean_inlineAssocs env (a := a) (more := more) hm
    obtain ⟨hel, hene⟩ := eol_not_literal e hge
    have hl := rcMAL more rest last [] p.1 p.2 ps hgm hmm hgl (hc.ends env).2.2
    have hv := rcAssoc a (more.toks ++ last :: rest) p hga hma
    rw [refItems, refAssociations, refInlineAssociations, refMultilineAssociations]
    simp only [SItems.toks, List.cons_append, List.append_assoc, refDelim_miss _ (eol_not_delim e ":" hge) hene,
      refAssociation_refuse1 env _ hel hene, refEol_hit _ hge, hv, hl, seq_refuse, seq_accept, List.nil_append, catItems_fold]

theorem rcIVL : ∀ (more : SVals) (rest : List Token) (acc : List Val) (x : Val) (xs : List Val),
    more.Good (fun t => isDelim t ",") → more.mean env = some xs → refToken .delimiter (some ",") rest = some .refuse →
    refInlineValuesLoop env acc x (more.toks ++ rest) = ret (acc ++ x :: xs) rest
  | .nil, rest, acc, x, xs, _, hm, hend => by
    cases hm
    rw [refInlineValuesLoop]
    simp only [SVals.toks, List.nil_append, hend, seq_refuse]
  | .cons sep v more, rest, acc, x, xs, hg, hm, hend => by
    obtain ⟨hgs, hgv, hgm⟩ := hg
    obtain ⟨y, ys, hmv, hmm, rfl⟩ := SVals.mean_cons env hm
    have hv := rcValue v (more.toks ++ rest) y hgv hmv
    have hl := rcIVL more rest (acc ++ [x]) y ys hgm hmm hend
    rw [refInlineValuesLoop]
    simp only [SVals.toks, List.cons_append, List.append_assoc, refDelim_hit _ hgs, hv, hl, seq_accept, List.nil_append]

theorem rcMVL : ∀ (more : SVals) (rest : List Token) (last : Token) (acc : List Val) (x : Val) (xs : List Val),
    more.Good isEol → more.mean env = some xs → isEol last = true → refValue env rest = some .refuse →
    refMultiValuesLoop env acc x (more.toks ++ last :: rest) = ret (acc ++ x :: xs) rest
  | .nil, rest, last, acc, x, xs, _, hm, hl, hend => by
    cases hm
    rw [refMultiValuesLoop]
    simp only [SVals.toks, List.nil_append, refEol_hit _ hl, hend, seq_accept, seq_refuse]
  | .cons sep v more, rest, last, acc, x, xs, hg, hm, hl, hend => by
    obtain ⟨hgs, hgv, hgm⟩ := hg
    obtain ⟨y, ys, hmv, hmm, rfl⟩ := SVals.mean_cons env hm
    have hv := rcValue v (more.toks ++ last :: rest) y hgv hmv
    have hl := rcMVL more rest last (acc ++ [x]) y ys hgm hmm hl hend
    rw [refMultiValuesLoop]
    simp only [SVals.toks, List.cons_append, List.append_assoc, refEol_hit _ hgs, hv, hl, seq_accept, List.nil_append]

theorem rcAssoc : ∀ (a : SAssoc) (rest : List Token) (p : Val × Val), a.Good → a.mean env = some p →
    refAssociation env (a.toks ++ rest) = ret (.assoc p.1 p.2) rest
  | .mk key colon v, rest, p, hg, hm => by
    obtain ⟨hgk, hgc, hgv⟩ := hg
    obtain ⟨k, x, hck, hmv, rfl⟩ := SAssoc.mean_mk env hm
    have hv := rcValue v rest x hgv hmv
    rw [refAssociation]
    simp only [SAssoc.toks, List.cons_append, refIntrinsic_hit env _ hgk hck, refDelim_hit _ hgc, hv, seq_accept]

theorem rcIAL : ∀ (more : SAssocs) (rest : List Token) (acc : List (Val × Val)) (k x : Val) (ps : List (Val × Val)),
    more.Good (fun t => isDelim t ",") → more.mean env = some ps → refToken .delimiter (some ",") rest = some .refuse →
    refInlineAssocLoop env acc (.assoc k x) (more.toks ++ rest) =
      ret (catItems (ps.foldl (fun a p => Val.catalogSet a p.1 p.2) (Val.catalogSet acc k x))) rest
  | .nil, rest, acc, k, x, ps, _, hm, hend => by
    cases hm
    rw [refInlineAssocLoop]
    simp only [SAssocs.toks, List.nil_append, hend, seq_refuse, List.foldl_nil, catAdd]
  | .cons sep a more, rest, acc, k, x, ps, hg, hm, hend => by
    obtain ⟨hgs, hga, hgm⟩ := hg
    obtain ⟨q, qs, hma, hmm, rfl⟩ := SAssocs.mean_cons env hm
    have hv := rcAssoc a (more.toks ++ rest) q hga hma
    have hl := rcIAL more rest (Val.catalogSet acc k x) q.1 q.2 qs hgm hmm hend
    rw [refInlineAssocLoop]
    simp only [SAssocs.toks, List.cons_append, List.append_assoc, refDelim_hit _ hgs, hv, catAdd, hl, seq_accept, List.foldl_cons]

theorem rcMAL : ∀ (more : SAssocs) (rest : List Token) (last : Token) (acc : List (Val × Val)) (k x : Val) (ps : List (Val × Val)),
    more.Good isEol → more.mean env = some ps → isEol last = true → refAssociation env rest = some .refuse →
    refMultiAssocLoop env acc (.assoc k x) (more.toks ++ last :: rest) =
      ret (catItems (ps.foldl (fun a p => Val.catalogSet a p.1 p.2) (Val.catalogSet acc k x))) rest
  | .nil, rest, last, acc, k, x, ps, _, hm, hl, hend => by
    cases hm
    rw [refMultiAssocLoop]
    simp only [SAssocs.toks, List.nil_append, refEol_hit _ hl, hend, seq_accept, seq_refuse, List.foldl_nil, catAdd]
  | .cons sep a more, rest, last, acc, k, x, ps, hg, hm, hl, hend => by
    obtain ⟨hgs, hga, hgm⟩ := hg
    obtain ⟨q, qs, hma, hmm, rfl⟩ := SAssocs.mean_cons env hm
    have hv := rcAssoc a (more.toks ++ last :: rest) q hga hma
    have hl := rcMAL more rest last (Val.catalogSet acc k x) q.1 q.2 qs hgm hmm hl hend
    rw [refMultiAssocLoop]
    simp only [SAssocs.toks, List.cons_append, List.append_assoc, refEol_hit _ hgs, hv, catAdd, hl, seq_accept, List.foldl_cons]

end

theorem rcCollection (lb : Token) (items : SItems) (rb lp ty rp : Token) (rest : List Token) (x : Val)
    (hg : (SValue.coll lb items rb lp ty rp).Good) (hm : (SValue.coll lb items rb lp ty rp).mean env = some x) :
    refCollection env ((SValue.coll lb items rb lp ty rp).toks ++ rest) = ret x rest := by
  have h := rcValue env _ rest x hg hm
  obtain ⟨hll, hle⟩ := delim_not_literal lb "[" hg.1
  rw [SValue.toks, List.cons_append] at h ⊢
  rwa [refValue, refIntrinsic_miss env _ hll hle, seq_refuse] at h

theorem rcSkipEols {eof : Token} (heof : eof.tt = .eof) : ∀ (eols : List Token), (∀ e ∈ eols, isEol e = true) →
    refSkipEols (eols ++ [eof]) = ret () [eof]
  | [], _ => by
    rw [refSkipEols]
    simp only [List.nil_append, refToken_miss [] (show tokMatches eof .eol none = false by simp [tokMatches, heof])
      (by rw [heof]; decide), seq_refuse]
  | e :: eols, he => by
    rw [refSkipEols]
    simp only [List.cons_append, refEol_hit _ (he e (List.mem_cons_self ..)), seq_accept]
    exact rcSkipEols heof eols fun x hx => he x (List.mem_cons_of_mem _ hx)

theorem rcSource (lb : Token) (items : SItems) (rb lp ty rp : Token) (eols : List Token) (eof : Token) (x : Val)
    (hg : (SValue.coll lb items rb lp ty rp).Good) (hm : (SValue.coll lb items rb lp ty rp).mean env = some x)
    (heols : ∀ e ∈ eols, isEol e = true) (heof : eof.tt = .eof) :
    refSource env ((SValue.coll lb items rb lp ty rp).toks ++ (eols ++ [eof])) = ret x [] := by
  rw [refSource]
  simp only [rcCollection env lb items rb lp ty rp _ x hg hm, rcSkipEols heof eols heols,
    refToken_hit [] (show tokMatches eof .eof none = true by simp [tokMatches, heof]) (by decide), seq_accept]

end Cdcn
end CM
