/-
  C18 — Go arrays and maps crossing the API are copied, never aliased.

  Statement (properties.jsonl): a Go array or map passed to any constructor, and
  any array or sequence returned by AsArray, GetValues, GetKeys, RemoveValues or
  a class function, shares no storage with the collection: modifying one after
  the call never changes what the other contains.  Passing a collection as the
  operand of its own bulk operation behaves as if a separate copy had been
  passed.

  The theorems are about `Model/Heap.lean`, where every API entry point is the
  sequence of allocations, copies, in-place writes and pointer updates of its Go
  body.  They hold for every script (history) of calls, every number of objects
  and every size.
-/
import CollectionModel.Lemmas.HeapLemmas
namespace CM
open CM.Heap

/-- the handles a step uses exist -/
def Heap.Op.handles : Op → List Nat
  | .goArray _ | .goPairs _ => []
  | .goWrite x .. | .goPairWrite x .. | .goMapSet x .. | .goMapDelete x .. => [x]
  | .makeFromArray _ y | .makeFromSequence _ y | .makeFromMap _ y => [y]
  | .asArray x | .getValues x .. | .getKeys x | .removeValuesRange x .. => [x]
  | .getValuesFor x k | .removeValuesFor x k | .extract x k => [x, k]
  | .concatenate a b | .setFn _ a b | .merge a b => [a, b]
  | .setValue x .. | .appendValue x .. | .removeValue x .. | .reverse x | .sort x | .addValue x ..
  | .pushValue x .. | .removeFirst x | .putValue x .. | .dropKey x .. | .removeAll x => [x]
  | .setValues x _ y | .insertValues x _ y | .appendValues x y | .addValues x y | .removeValues x y => [x, y]

def Valid (s : St) (op : Op) : Prop := ∀ x ∈ op.handles, x < s.refs.length

@[simp] theorem snap_refs (s : St) (y : Nat) : (s.snap y).1.refs = s.refs := rfl
@[simp] theorem snap_snd (s : St) (y : Nat) : (s.snap y).2 = s.cells.length := rfl

/-- the cases are grouped by the storage commands the call is made of -/
theorem exec_frame {s : St} (h : WF s) (op : Op) : Frame op.receiver s (exec s op) := by
  have f {x} : Frame x s s := .refl h
  cases op with
  | goArray _ | goPairs _ | asArray _ => exact f.give _
  | getKeys x | getValuesFor _ x | extract _ x => exact (f.snap x).give _
  | concatenate a b | setFn _ a b | merge a b => exact ((f.snap a).snap b).give _
  | goWrite | goPairWrite | goMapSet | goMapDelete | setValue | reverse | sort | putValue | dropKey =>
    exact f.inplace _
  | setValues _ _ y => exact (f.snap y).inplace _
  | removeValuesFor _ keys => exact ((f.snap keys).inplace _).give _
  | appendValue | removeValue | addValue | pushValue | removeFirst | removeAll => exact f.rebuild _
  | insertValues _ _ y | appendValues _ y | addValues _ y | removeValues _ y =>
    exact (f.snap y).rebuild _
  | makeFromArray kind y =>
    cases kind
    case array | map => exact f.give _
    all_goals exact ((f.snap y).snap y).give _
  | makeFromSequence kind y => cases kind <;> exact (f.snap y).give _
  | makeFromMap kind y => cases kind <;> exact f.give _
  | getValues =>
    dsimp only [exec]; split
    · exact f.give _
    · exact f
  | removeValuesRange x =>
    dsimp only [exec]; split
    · -- snap, allocate the removed values, move `x` to the kept ones, hand out the removed ones
      have f1 := (f (x := some x)).snap x
      refine ((f1.alloc _).alloc_retarget _).push ?inHeap fun hm =>
        (List.mem_or_eq_of_mem_set hm).elim (fresh_not_ref f1.wf) ?notKept
      -- the cell of the removed values exists, and it is not the one `x` was moved to
      all_goals simp only [retarget_cells, alloc_len, alloc_snd]; omega
    · exact f

/-- **well-formedness is an invariant**: handles keep pointing at existing,
    pairwise distinct cells after every call -/
theorem C18_step_wf (s : St) (h : WF s) (op : Op) : WF (exec s op) := (exec_frame h op).wf

theorem receiver_mem_handles {z : Nat} : ∀ {op : Op}, op.receiver = some z → z ∈ op.handles := by
  intro op hz; cases op <;> cases hz <;> exact .head _

/-- **isolation, one step**: a call changes what is seen through its receiver
    (and creates its result); everything any other handle shows is unchanged.
    In particular a write through the client's Go array or map is invisible in
    every collection built from it, a mutation of a collection is invisible in
    every array or sequence obtained from it earlier, and conversely. -/
theorem C18_step_isolation (s : St) (h : WF s) (op : Op) (hv : Valid s op) (y : Nat)
    (hy : y < s.refs.length) (hne : op.receiver ≠ some y) :
    (exec s op).obs y = s.obs y :=
  (exec_frame h op).obs (fun z hz => hv z (receiver_mem_handles hz)) y hy hne

/-- scripts whose every step uses existing handles -/
def ValidRun : St → List Op → Prop
  | _, [] => True
  | s, op :: ops => Valid s op ∧ ValidRun (exec s op) ops

/-- **isolation over histories**: whatever calls are made, in whatever order
    and number, a handle that is never the receiver shows at the end exactly
    what it showed at the start. -/
theorem C18_history_isolation : ∀ (ops : List Op) (s : St), WF s → ValidRun s ops →
    ∀ y, y < s.refs.length → (∀ op ∈ ops, op.receiver ≠ some y) → (run s ops).obs y = s.obs y := by
  intro ops
  induction ops with
  | nil => exact fun _ _ _ _ _ _ => rfl
  | cons op ops ih =>
    intro s h hv y hy hn
    have f := exec_frame h op
    exact (ih (exec s op) f.wf hv.2 y (Nat.lt_of_lt_of_le hy f.refs)
      fun o ho => hn o (List.mem_cons_of_mem _ ho)).trans
      (C18_step_isolation s h op hv.1 y hy (hn op (List.mem_cons_self ..)))

/-- **constructors copy**: the object returned by `MakeFromArray`,
    `MakeFromSequence` or `MakeFromMap` of every kind lives in a cell that did
    not exist before the call, so it is distinct from the argument's cell and
    from every other object's. -/
theorem C18_constructor_fresh (s : St) (kind : Kind) (y : Nat) :
    s.cells.length ≤ (exec s (.makeFromArray kind y)).addr s.refs.length ∧
    s.cells.length ≤ (exec s (.makeFromSequence kind y)).addr s.refs.length ∧
    s.cells.length ≤ (exec s (.makeFromMap kind y)).addr s.refs.length := by
  have g0 := give_fresh (Nat.le_refl s.cells.length) rfl
  have g1 := give_fresh (snap_le s y) rfl
  have g2 := give_fresh (Nat.le_trans (snap_le s y) (snap_le _ y)) rfl
  cases kind
  case array | map => exact ⟨g0 _, g1 _, g0 _⟩
  all_goals exact ⟨g2 _, g1 _, g0 _⟩

/-- **results are copies**: what `AsArray`, `GetKeys`, `GetValues(keys)`,
    `Concatenate`, `And/Or/Sans/Xor`, `Merge`, `Extract` hand out lives in a
    cell that did not exist before the call. -/
theorem C18_result_fresh (s : St) (x y w : Nat) :
    s.cells.length ≤ (exec s (.asArray x)).addr s.refs.length ∧
    s.cells.length ≤ (exec s (.getKeys x)).addr s.refs.length ∧
    s.cells.length ≤ (exec s (.getValuesFor x y)).addr s.refs.length ∧
    s.cells.length ≤ (exec s (.concatenate x y)).addr s.refs.length ∧
    s.cells.length ≤ (exec s (.setFn w x y)).addr s.refs.length ∧
    s.cells.length ≤ (exec s (.merge x y)).addr s.refs.length ∧
    s.cells.length ≤ (exec s (.extract x y)).addr s.refs.length :=
  have g1 (z : Nat) := give_fresh (snap_le s z) rfl
  have g2 := give_fresh (Nat.le_trans (snap_le s x) (snap_le _ y)) rfl
  ⟨give_fresh (Nat.le_refl s.cells.length) rfl _, g1 x _, g1 y _, g2 _, g2 _, g2 _, g1 y _⟩

theorem removeValuesRange_addr {s : St} {x f n : Nat} {first last : Int}
    (hr : rangeOf (s.valsOf x).length first last = some (f, n)) (hx : x < s.refs.length) :
    (exec s (.removeValuesRange x first last)).addr s.refs.length = s.cells.length + 1 ∧
    (exec s (.removeValuesRange x first last)).addr x = s.cells.length + 2 := by
  dsimp only [exec]
  rw [hr]
  exact ⟨(retarget_push_addr _ _ _ hx).1.trans (alloc_len s _),
    (retarget_push_addr _ _ _ hx).2.trans ((alloc_len _ _).trans (congrArg (· + 1) (alloc_len s _)))⟩

/-- `GetValues(first, last)` of an Array, List or Set and the removed values of
    `List.RemoveValues(first, last)`: fresh cells as well; the list itself moves
    to a fresh cell. -/
theorem C18_range_results_fresh (s : St) (x : Nat) (first last : Int) (f n : Nat)
    (hr : rangeOf (s.valsOf x).length first last = some (f, n)) (hx : x < s.refs.length) :
    s.cells.length ≤ (exec s (.getValues x first last)).addr s.refs.length ∧
    s.cells.length ≤ (exec s (.removeValuesRange x first last)).addr s.refs.length ∧
    s.cells.length ≤ (exec s (.removeValuesRange x first last)).addr x ∧
    (exec s (.removeValuesRange x first last)).addr s.refs.length ≠
      (exec s (.removeValuesRange x first last)).addr x := by
  have ⟨e1, e2⟩ := removeValuesRange_addr hr hx
  refine ⟨?_, e1 ▸ Nat.le_succ _, e2 ▸ Nat.le_add_right _ 2, e1 ▸ e2 ▸ Nat.ne_of_lt (Nat.lt_succ_self _)⟩
  dsimp only [exec]
  rw [hr]
  exact give_fresh (Nat.le_refl _) rfl _

/-- what the receiver of a bulk operation shows afterwards depends on the
    operand only through what the operand showed before the call -/
theorem bulk_obs {s : St} (h : WF s) {x : Nat} (hx : x < s.refs.length) (y slot : Nat) :
    (exec s (.appendValues x y)).obs x = .vals (Seq.appendValues (s.valsOf x) (s.valsOf y)) ∧
    (exec s (.insertValues x slot y)).obs x =
      .vals ((s.valsOf x).take slot ++ s.valsOf y ++ (s.valsOf x).drop slot) ∧
    (exec s (.setValues x slot y)).obs x = .vals (Seq.overwrite (s.valsOf x) slot (s.valsOf y)) ∧
    (exec s (.addValues x y)).obs x = .vals (setAdd (s.valsOf x) (s.valsOf y)) ∧
    (exec s (.removeValues x y)).obs x = .vals (setRemove (s.valsOf x) (s.valsOf y)) := by
  have hx1 : x < (s.snap y).1.refs.length := hx
  have ev : (s.snap y).1.valsOf x = s.valsOf x := snap_valsOf h hx y
  have ec : ((s.snap y).1.cell (s.snap y).2).toVals = s.valsOf y := congrArg Cell.toVals (snap_cell s y)
  dsimp only [exec]
  rw [ev, ec]
  exact ⟨obs_rebuild_self _ _ hx1, obs_rebuild_self _ _ hx1, obs_inplace_self (wf_alloc h _) _ hx1,
    obs_rebuild_self _ _ hx1, obs_rebuild_self _ _ hx1⟩

/-- **self operand**: a bulk operation whose operand is the receiver itself
    leaves the receiver exactly as the same operation with a separate copy
    (`AsArray`) of the receiver as operand. -/
theorem C18_self_operand (s : St) (h : WF s) (x : Nat) (hx : x < s.refs.length) (slot : Nat) :
    let c := s.refs.length                      -- the handle of the copy
    let s' := exec s (.asArray x)
    (exec s (.appendValues x x)).obs x = (exec s' (.appendValues x c)).obs x ∧
    (exec s (.insertValues x slot x)).obs x = (exec s' (.insertValues x slot c)).obs x ∧
    (exec s (.setValues x slot x)).obs x = (exec s' (.setValues x slot c)).obs x ∧
    (exec s (.addValues x x)).obs x = (exec s' (.addValues x c)).obs x ∧
    (exec s (.removeValues x x)).obs x = (exec s' (.removeValues x c)).obs x := by
  intro c s'
  have f := exec_frame h (.asArray x)
  have ex : s'.valsOf x = s.valsOf x := congrArg Cell.toVals (f.obs nofun x hx nofun)
  have ec : s'.valsOf c = s.valsOf x := congrArg Cell.toVals (give_new s _).2
  obtain ⟨app, ins, set, add, rem⟩ := bulk_obs h hx x slot
  obtain ⟨app', ins', set', add', rem'⟩ := bulk_obs f.wf (Nat.lt_of_lt_of_le hx f.refs) c slot
  rw [ex, ec] at app' ins' set' add' rem'
  exact ⟨app.trans app'.symm, ins.trans ins'.symm, set.trans set'.symm, add.trans add'.symm,
    rem.trans rem'.symm⟩

/-- non-vacuity: build a list from a Go array, overwrite the Go array, take AsArray, mutate
    the list: three objects, three different cells, nothing leaks. -/
example :
    let s := run St.empty [.goArray [1, 2, 3], .makeFromArray .list 0, .goWrite 0 1 99, .asArray 1, .appendValue 1 7]
    s.valsOf 0 = [1, 99, 3] ∧ s.valsOf 1 = [1, 2, 3, 7] ∧ s.valsOf 2 = [1, 2, 3] := by
  decide

end CM
