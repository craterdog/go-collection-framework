/-
  `fmtValue` has three arms: a collection (any of the seven contexts) is its
  items between brackets and its context name; an association is its key, a colon and its
  value; everything else is a leaf.  `ctxName v ≠ []` is "v is a collection".
  `fmtItems` and `fmtLines` unfold by `fmtItems_succ` and `fmtLines_cons`.
-/
import CollectionModel.Model.Cdcn.Parse
import CollectionModel.Lemmas.ScanHeads
namespace CM
namespace Cdcn

def itemsOf : Val → List Val
  | .arr _ _ xs => xs
  | .coll _ xs => xs
  | .gomap _ _ es => es.map fun e => .assoc e.1 e.2
  | _ => []

def keyedOf : Val → Bool
  | .coll k _ => k == .catalog
  | .gomap _ _ _ => true
  | _ => false

variable {leafText : Val → Option (List Nat)} {max f d : Nat} {v : Val}

theorem ctxName_ne_nil : ctxName v ≠ [] ↔ (∃ c n xs, v = .arr c n xs) ∨ (∃ k xs, v = .coll k xs) ∨ ∃ c n es, v = .gomap c n es := by
  constructor
  · intro h
    cases v with
    | arr c n xs => exact .inl ⟨c, n, xs, rfl⟩
    | coll k xs => exact .inr (.inl ⟨k, xs, rfl⟩)
    | gomap c n es => exact .inr (.inr ⟨c, n, es, rfl⟩)
    | _ => exact absurd rfl h
  · rintro (⟨_, _, _, rfl⟩ | ⟨k, _, rfl⟩ | ⟨_, _, _, rfl⟩)
    · simp only [ctxName, ctx_strs]; exact List.cons_ne_nil _ _
    · cases k <;> simp only [ctxName, ctx_strs] <;> exact List.cons_ne_nil _ _
    · simp only [ctxName, ctx_strs]; exact List.cons_ne_nil _ _

theorem fmtValue_coll (h : ctxName v ≠ []) : fmtValue leafText max (f+1) d v =
    (fmtItems leafText max f d (keyedOf v) (itemsOf v)).bind fun t => .ok (ch '[' :: t ++ ch ']' :: ch '(' :: ctxName v ++ [ch ')']) := by
  obtain ⟨_, _, _, rfl⟩ | ⟨_, _, rfl⟩ | ⟨_, _, _, rfl⟩ := ctxName_ne_nil.mp h <;> rfl

theorem fmtValue_leaf (h : ctxName v = []) (ha : isAssocVal v = false) : fmtValue leafText max (f+1) d v =
    match leafText v with | some t => .ok t | none => .lib := by
  cases v with
  | arr c n xs => exact absurd h (ctxName_ne_nil.mpr (.inl ⟨c, n, xs, rfl⟩))
  | coll k xs => exact absurd h (ctxName_ne_nil.mpr (.inr (.inl ⟨k, xs, rfl⟩)))
  | gomap c n es => exact absurd h (ctxName_ne_nil.mpr (.inr (.inr ⟨c, n, es, rfl⟩)))
  | assoc => exact Bool.noConfusion ha
  | _ => rfl

theorem fmtValue_assoc (k x : Val) : fmtValue leafText max (f+1) d (.assoc k x) =
    match leafText k with
    | none => .lib
    | some kt => (fmtValue leafText max f d x).bind fun t => .ok (kt ++ str ": " ++ t) := rfl

theorem fmtItems_succ (keyed : Bool) (xs : List Val) : fmtItems leafText max (f+1) d keyed xs =
    if d = max then .ok (str "...")
    else match xs with
      | [] => .ok (if keyed then str ":" else str " ")
      | [x] => fmtValue leafText max f (d+1) x
      | xs => (fmtLines leafText max f (d+1) xs).bind fun t => .ok (t ++ newline d) := rfl

theorem fmtLines_cons (x : Val) (xs : List Val) : fmtLines leafText max (f+1) d (x :: xs) =
    (fmtValue leafText max f d x).bind fun t => (fmtLines leafText max f d xs).bind fun rest => .ok (newline d ++ t ++ rest) := rfl

theorem isAssocVal_eq_true (h : isAssocVal v = true) : ∃ k x, v = .assoc k x := by
  cases v with
  | assoc k x => exact ⟨k, x, rfl⟩
  | _ => exact Bool.noConfusion h

theorem bind_ok {o : FOut} {k : List Nat → FOut} {t : List Nat} (h : o.bind k = .ok t) : ∃ t1, o = .ok t1 ∧ k t1 = .ok t := by
  cases o with
  | ok t1 => exact ⟨t1, rfl, h⟩
  | lib => simp [FOut.bind] at h
  | hang => simp [FOut.bind] at h

theorem bind_ok_ok {o : FOut} {g : List Nat → List Nat} {t : List Nat} (h : (o.bind fun t1 => .ok (g t1)) = .ok t) :
    ∃ t1, o = .ok t1 ∧ g t1 = t := by
  obtain ⟨t1, ho, ht⟩ := bind_ok h
  exact ⟨t1, ho, FOut.ok.inj ht⟩

end Cdcn
end CM
