/-
  The `switch` of `scanTokens` by the first rune: every token pattern can only begin with
  the runes of its class (`heads`), so on a text beginning with `c` only the patterns
  whose class holds `c` are tried (`matchToken_cons`).  For most runes that leaves one.
  Before that, one turn of the loop around the `switch` (`scanLoop_succ`): what is said of the
  whole token stream is an induction on the fuel over it.
-/
import CollectionModel.Model.Cdcn.Format
namespace CM
namespace Cdcn

theorem ch_codes : ch '0' = 48 ∧ ch '1' = 49 ∧ ch '9' = 57 ∧ ch '+' = 43 ∧ ch '-' = 45 ∧ ch '.' = 46 ∧ ch 'e' = 101 ∧
    ch 'E' = 69 ∧ ch '"' = 34 ∧ ch '\'' = 39 ∧ ch '\\' = 92 ∧ ch '(' = 40 ∧ ch ')' = 41 ∧ ch 'i' = 105 := by
  decide

theorem isDigit_iff (d : Nat) : isDigit d = true ↔ 48 ≤ d ∧ d ≤ 57 := by
  simp [isDigit, ch_codes]

theorem isDigit19_iff (d : Nat) : isDigit19 d = true ↔ 49 ≤ d ∧ d ≤ 57 := by
  simp [isDigit19, ch_codes]

theorem isSign_iff (s : Nat) : isSign s = true ↔ s = 43 ∨ s = 45 := by
  simp [isSign, ch_codes]

theorem spanLen_all (p : Nat → Bool) : ∀ (l rest : List Nat), (∀ c ∈ l, p c = true) →
    (∀ c, rest.head? = some c → p c = false) → spanLen p (l ++ rest) = l.length
  | [], rest, _, hr => by
    cases rest with
    | nil => rfl
    | cons c cs => exact if_neg (Bool.eq_false_iff.mp (hr c rfl))
  | x :: xs, rest, hl, hr => by
    show (if p x then 1 + spanLen p (xs ++ rest) else 0) = xs.length + 1
    rw [if_pos (hl x List.mem_cons_self), spanLen_all p xs rest (fun c hc => hl c (List.mem_cons_of_mem _ hc)) hr, Nat.add_comm]

theorem forall_head_cons {P : Nat → Prop} {x : Nat} {tail : List Nat} (h : P x) : ∀ c, (x :: tail).head? = some c → P c :=
  fun _ hc => Option.some.inj hc ▸ h

theorem digit19_not_zero_not_sign {d : Nat} (h : isDigit19 d = true) : (d == ch '0') = false ∧ isSign d = false := by
  have hd := (isDigit19_iff d).mp h
  refine ⟨by simp [ch_codes]; omega, Bool.eq_false_iff.mpr fun hs => ?_⟩
  have := (isSign_iff d).mp hs
  omega

theorem firstMatch_mem : ∀ (ms : List (TT × (Src → Option Nat))) (src : Src) (tt : TT) (n : Nat),
    firstMatch ms src = some (tt, n) → ∃ m, (tt, m) ∈ ms ∧ m src = some n
  | [], _, _, _, h => nomatch h
  | (t, m) :: rest, src, tt, n, h => by
    simp only [firstMatch] at h
    cases hm : m src with
    | some k =>
      rw [hm] at h
      obtain ⟨rfl, rfl⟩ := Prod.mk.inj (Option.some.inj h)
      exact ⟨m, List.mem_cons_self, hm⟩
    | none =>
      rw [hm] at h
      obtain ⟨m', hmem, hm'⟩ := firstMatch_mem rest src tt n h
      exact ⟨m', List.mem_cons_of_mem _ hmem, hm'⟩

theorem matchToken_tt (src : Src) (tt : TT) (n : Nat) (h : matchToken src = some (tt, n)) :
    tt ≠ .eof ∧ tt ≠ .error := by
  obtain ⟨m, hm, _⟩ := firstMatch_mem matchers src tt n h
  exact (by decide : ∀ p ∈ matchers, p.1 ≠ .eof ∧ p.1 ≠ .error) _ hm

/-- One turn of the loop of `scanTokens`, whatever the fuel: no pattern matches (an error token, and the end); or the
    first `k` runes – what was matched, one rune if that is nothing – are taken off and, unless white space, emitted. -/
theorem scanLoop_succ (c : Nat) (cs : Src) (lc : Nat × Nat) :
    (matchToken (c :: cs) = none ∧ ∀ fuel, scanLoop (fuel+1) (c :: cs) lc =
      [{ tt := .error, value := [c], line := lc.1, pos := lc.2 }, { tt := .eof, value := [], line := lc.1, pos := lc.2 }]) ∨
    ∃ tt n k, matchToken (c :: cs) = some (tt, n) ∧ k = (if n == 0 then 1 else n) ∧ ((c :: cs).drop k).length ≤ cs.length ∧
      ∀ fuel, scanLoop (fuel+1) (c :: cs) lc =
        (if tt = .space then [] else [{ tt := tt, value := (c :: cs).take k, line := lc.1, pos := lc.2 }]) ++
          scanLoop fuel ((c :: cs).drop k) (advance lc ((c :: cs).take k)) := by
  cases hm : matchToken (c :: cs) with
  | none => exact .inl ⟨rfl, fun fuel => by simp only [scanLoop, hm]⟩
  | some p =>
    obtain ⟨tt, n⟩ := p
    refine .inr ⟨tt, n, _, rfl, rfl, ?_, fun fuel => ?_⟩
    · rw [List.length_drop, List.length_cons]
      cases n with
      | zero => exact Nat.le_refl _
      | succ n =>
        show cs.length + 1 - (n + 1) ≤ cs.length
        rw [Nat.add_sub_add_right]; exact Nat.sub_le _ _
    · simp only [scanLoop, hm]
      by_cases hs : tt = .space
      · subst hs; rfl
      · simp only [hs, beq_iff_eq, if_false]; rfl

theorem scanLoop_mem (fuel : Nat) (src : Src) (lc : Nat × Nat) (t : Token) (h : t ∈ scanLoop fuel src lc) :
    ∃ pre rest, src = pre ++ rest ∧ (t.line, t.pos) = advance lc pre ∧
      (t.tt = .eof ∨ t.tt = .error ∨ ∃ n, matchToken rest = some (t.tt, n) ∧ t.value = rest.take (if n == 0 then 1 else n)) := by
  induction fuel generalizing src lc with
  | zero => obtain rfl := List.mem_singleton.mp h; exact ⟨[], src, rfl, rfl, .inl rfl⟩
  | succ fuel ih =>
    cases src with
    | nil => obtain rfl := List.mem_singleton.mp h; exact ⟨[], [], rfl, rfl, .inl rfl⟩
    | cons c cs =>
      obtain ⟨_, e⟩ | ⟨tt, n, k, hm, hk, _, e⟩ := scanLoop_succ c cs lc
      · rw [e] at h
        simp only [List.mem_cons, List.mem_nil_iff, or_false] at h
        rcases h with rfl | rfl
        · exact ⟨[], _, rfl, rfl, .inr (.inl rfl)⟩
        · exact ⟨[], _, rfl, rfl, .inl rfl⟩
      · rw [e, List.mem_append] at h
        rcases h with h | h
        · split at h
          · cases h
          · obtain rfl := List.mem_singleton.mp h
            exact ⟨[], _, rfl, rfl, .inr (.inr ⟨n, hm, hk ▸ rfl⟩)⟩
        · -- a later token: before it lie the text of this turn and what the rest of the loop passed over
          obtain ⟨pre, rest, hsplit, hpos, hkind⟩ := ih _ _ h
          exact ⟨(c :: cs).take k ++ pre, rest, by rw [List.append_assoc, ← hsplit, List.take_append_drop],
            hpos.trans List.foldl_append.symm, hkind⟩

/-- the runes, as code points so that a class is cheap to evaluate, with which a token of the kind can begin -/
def heads : TT → Nat → Bool
  | .boolean, c => 102 == c || 116 == c                                          -- f t
  | .complex, c => c == 40                                                       -- (
  | .delimiter, c => c == 91 || c == 93 || c == 40 || c == 41 || c == 58 || c == 44    -- [ ] ( ) : ,
  | .eol, c => c == 10
  | .float, c => isSign c || isDigit c
  | .hexadecimal, c => c == 48                                                   -- 0
  | .integer, c => isSign c || isDigit c
  | .nil, c => 110 == c                                                          -- n
  | .rune, c => c == 39                                                          -- '
  | .space, c => c == 32
  | .string, c => c == 34                                                        -- "
  | .type, c => 65 == c || 67 == c || 76 == c || 77 == c || 81 == c || 83 == c   -- A C L M Q S
  | _, _ => false

/-- rewriting with this is much cheaper than letting `simp` or the kernel evaluate the string literals again -/
theorem ctx_strs : str "Array" = [65, 114, 114, 97, 121] ∧ str "Catalog" = [67, 97, 116, 97, 108, 111, 103] ∧
    str "List" = [76, 105, 115, 116] ∧ str "Map" = [77, 97, 112] ∧ str "Queue" = [81, 117, 101, 117, 101] ∧
    str "Set" = [83, 101, 116] ∧ str "Stack" = [83, 116, 97, 99, 107] := by
  simp [str, ch]

theorem lit_str (s : String) (src : Src) : lit s src = if (str s).isPrefixOf src then some (str s).length else none := by
  simp [lit, startsWith, str, String.length_toList]

theorem lit_some {s : String} {src : Src} {n : Nat} (h : lit s src = some n) : n = (str s).length ∧ src.take n = str s := by
  rw [lit_str] at h
  split at h
  · rename_i hp
    obtain ⟨t, rfl⟩ := List.isPrefixOf_iff_prefix.mp hp
    exact Option.some.inj h ▸ ⟨rfl, List.take_left⟩
  · cases h

theorem bool_strs : str "false" = [102, 97, 108, 115, 101] ∧ str "true" = [116, 114, 117, 101] := by
  simp [str, ch]

theorem mBoolean_eq (src : Src) : mBoolean src =
    (if [102, 97, 108, 115, 101].isPrefixOf src then some 5 else none).orElse fun _ =>
      if [116, 114, 117, 101].isPrefixOf src then some 4 else none := by
  simp only [mBoolean, lit_str, bool_strs]; rfl

theorem mType_eq (src : Src) : mType src =
    [[65, 114, 114, 97, 121], [67, 97, 116, 97, 108, 111, 103], [76, 105, 115, 116], [77, 97, 112], [81, 117, 101, 117, 101],
      [83, 101, 116], [83, 116, 97, 99, 107]].foldl
      (fun acc s => acc.orElse fun _ => if s.isPrefixOf src then some s.length else none) none := by
  simp only [mType, List.foldl, lit_str, ctx_strs]

variable {c : Nat} {r : Src}

/-! The first line of each proof unfolds `heads` by computation: `simp` would generate the equations of the
    thirteen-way match in every one of them. -/

theorem mBoolean_head (h : heads .boolean c = false) : mBoolean (c :: r) = none := by
  have h : (102 == c) = false ∧ (116 == c) = false := Bool.or_eq_false_iff.mp h
  simp [mBoolean_eq, beq_eq_false_iff_ne.mp h.1, beq_eq_false_iff_ne.mp h.2]

theorem mComplex_head (h : heads .complex c = false) : mComplex (c :: r) = none := by
  have h : c ≠ 40 := beq_eq_false_iff_ne.mp h
  simp [mComplex, ch_codes, h]

theorem mDelimiter_head (h : heads .delimiter c = false) : mDelimiter (c :: r) = none := by
  have h : (c == 91 || c == 93 || c == 40 || c == 41 || c == 58 || c == 44) = false := h
  simp only [mDelimiter, ch, Char.reduceToNat, h, Bool.false_eq_true, if_false]

theorem mEol_head (h : heads .eol c = false) : mEol (c :: r) = none :=
  if_neg (Bool.eq_false_iff.mp h)

theorem not_digit_not_zero_not_digit19 (h : isDigit c = false) : (c == ch '0') = false ∧ isDigit19 c = false := by
  have h0 : ¬ (48 ≤ c ∧ c ≤ 57) := fun h' => by rw [(isDigit_iff c).mpr h'] at h; cases h
  have h19 : ¬ isDigit19 c = true := fun h' => h0 (by have := (isDigit19_iff c).mp h'; omega)
  exact ⟨by simp [ch_codes]; omega, by simpa using h19⟩

theorem mFloat_head (h : heads .float c = false) : mFloat (c :: r) = none := by
  have h : isSign c = false ∧ isDigit c = false := Bool.or_eq_false_iff.mp h
  have hd := not_digit_not_zero_not_digit19 h.2
  simp [mFloat, h.1, mZeroOrOrdinal, mOrdinal, hd.1, hd.2]

theorem mHex_head (h : heads .hexadecimal c = false) : mHex (c :: r) = none := by
  have h : c ≠ 48 := beq_eq_false_iff_ne.mp h
  cases r <;> simp [mHex, ch_codes, h]

theorem mInteger_head (h : heads .integer c = false) : mInteger (c :: r) = none := by
  have h : isSign c = false ∧ isDigit c = false := Bool.or_eq_false_iff.mp h
  have hd := not_digit_not_zero_not_digit19 h.2
  simp [mInteger, mOrdinal, h.1, hd.1, hd.2]

theorem mNil_head (h : heads .nil c = false) : mNil (c :: r) = none := by
  have h : (110 == c) = false := h
  simp [mNil, lit, startsWith, List.isPrefixOf, ch, h]

theorem mRune_head (h : heads .rune c = false) : mRune (c :: r) = none := by
  have h : c ≠ 39 := beq_eq_false_iff_ne.mp h
  simp [mRune, ch_codes, h]

theorem mSpace_head (h : heads .space c = false) : mSpace (c :: r) = none := by
  have h : (c == 32) = false := h
  simp [mSpace, spanLen, h]

theorem mString_head (h : heads .string c = false) : mString (c :: r) = none := by
  have h : c ≠ 34 := beq_eq_false_iff_ne.mp h
  simp [mString, ch_codes, h]

theorem mType_head (h : heads .type c = false) : mType (c :: r) = none := by
  have h : (65 == c || 67 == c || 76 == c || 77 == c || 81 == c || 83 == c) = false := h
  simp only [Bool.or_eq_false_iff, beq_eq_false_iff_ne] at h
  simp [mType_eq, h]

theorem firstMatch_filter (q : TT × (Src → Option Nat) → Bool) (src : Src) :
    ∀ ms : List (TT × (Src → Option Nat)), (∀ p ∈ ms, q p = false → p.2 src = none) →
      firstMatch ms src = firstMatch (ms.filter q) src
  | [], _ => rfl
  | (tt, m) :: ms, h => by
    have ih := firstMatch_filter q src ms fun p hp => h p (List.mem_cons_of_mem _ hp)
    cases hq : q (tt, m) with
    | true => simp only [List.filter_cons, hq, if_true, firstMatch, ih]
    | false =>
      have hm : m src = none := h _ List.mem_cons_self hq
      simp only [List.filter_cons, hq, firstMatch, hm, ih]; rfl

theorem matchToken_cons (c : Nat) (r : Src) :
    matchToken (c :: r) = firstMatch (matchers.filter fun p => heads p.1 c) (c :: r) :=
  firstMatch_filter _ _ _ <| by
    simp only [matchers, List.forall_mem_cons]
    exact ⟨mBoolean_head, mComplex_head, mDelimiter_head, mEol_head, mFloat_head, mHex_head, mInteger_head, mNil_head,
      mRune_head, mSpace_head, mString_head, mType_head, fun _ h => (List.not_mem_nil h).elim⟩

theorem matchToken_one {tt : TT} {m : Src → Option Nat} (c : Nat) (r : Src)
    (h : (matchers.filter fun p => heads p.1 c) = [(tt, m)]) :
    matchToken (c :: r) = (m (c :: r)).map fun n => (tt, n) := by
  rw [matchToken_cons, h]; simp only [firstMatch]; cases m (c :: r) <;> rfl

end Cdcn
end CM
