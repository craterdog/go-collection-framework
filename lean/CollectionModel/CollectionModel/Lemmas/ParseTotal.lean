/-
  The simulation of the parser model by the reference parser (`simulates` for the fifteen methods, `parseTokens_sim`
  for `ParseSource`), and what it says of the model alone, one field of `IH` each: from a well-formed state and
  with enough fuel, a method returns a value (having consumed a prefix of the stream), reports `ok = false`
  (having restored the stream), or raises the located diagnostic — never a Go runtime error, never a full
  push-back stack, never a hang.
-/
import CollectionModel.Lemmas.ParseRef
namespace CM
namespace Cdcn
open RefOut

variable (env : Env)

/-- the loops of the parser never report `ok = false` -/
def NotNo {α : Type} : PR α → Prop
  | .no _ _ => False
  | _ => True

/- The second argument of each `Post` is how far a refusing method can leave the push-back stack grown: a refusal
   puts back what it has looked at.  One token for a value, collection or sequence and the three forms of values;
   two for an association and inline associations (a literal that is no key, on top of the token behind it);
   three for multi-line associations, associations and items (the EOL on top of those two) – the `stk` bound of `WF`,
   so that a stack of four never fills.  The loops run behind a first element and never refuse (`NotNo`).
   The first argument of each `Fuel` is the method's offset, explained where `Fuel` is defined. -/
/-- every method behaves at fuel `f` -/
structure IH (f : Nat) : Prop where
  value : ∀ s, WF env s → Fuel 2 f s → Post env 1 s (parseValue env f s)
  collection : ∀ s, WF env s → Fuel 1 f s → Post env 1 s (parseCollection env f s)
  sequence : ∀ s, WF env s → Fuel 0 f s → Post env 1 s (parseSequence env f s)
  items : ∀ s, WF env s → Fuel 5 f s → Post env 3 s (parseItems env f s)
  assocs : ∀ s, WF env s → Fuel 2 f s → Post env 3 s (parseAssociations env f s)
  assoc : ∀ s, WF env s → Fuel 0 f s → Post env 2 s (parseAssociation env f s)
  inlineAssocs : ∀ s, WF env s → Fuel 1 f s → Post env 2 s (parseInlineAssociations env f s)
  inlineAssocLoop : ∀ acc a s, WF env s → Fuel 0 f s → Post env 0 s (inlineAssocLoop env f acc a s) ∧ NotNo (inlineAssocLoop env f acc a s)
  multiAssocs : ∀ s, WF env s → Fuel 1 f s → Post env 3 s (parseMultilineAssociations env f s)
  multiAssocLoop : ∀ acc a tok s, WF env s → Fuel 0 f s → Post env 0 s (multiAssocLoop env f acc a tok s) ∧ NotNo (multiAssocLoop env f acc a tok s)
  values : ∀ s, WF env s → Fuel 4 f s → Post env 1 s (parseValues env f s)
  inlineValues : ∀ s, WF env s → Fuel 3 f s → Post env 1 s (parseInlineValues env f s)
  inlineValuesLoop : ∀ acc v s, WF env s → Fuel 0 f s → Post env 0 s (inlineValuesLoop env f acc v s) ∧ NotNo (inlineValuesLoop env f acc v s)
  multiValues : ∀ s, WF env s → Fuel 1 f s → Post env 1 s (parseMultilineValues env f s)
  multiValuesLoop : ∀ acc v s, WF env s → Fuel 0 f s → Post env 0 s (multiValuesLoop env f acc v s) ∧ NotNo (multiValuesLoop env f acc v s)

/-- every method of the model, run at fuel `f`, is the image of its reference.  A loop is entered behind a first
    element, in a state `s` reached from the state `s0` in which the enclosing method started: its outcome is stated
    from `s0` (what it leaves is a suffix of the stream of `s0`) and at any depth `d` (it never refuses), so that the
    caller can pass it on as its own. -/
structure Simulates (f : Nat) : Prop where
  value : ∀ s, WF env s → Fuel 2 f s → Sim env 1 s (parseValue env f s) (refValue env (stream s))
  collection : ∀ s, WF env s → Fuel 1 f s → Sim env 1 s (parseCollection env f s) (refCollection env (stream s))
  sequence : ∀ s, WF env s → Fuel 0 f s → Sim env 1 s (parseSequence env f s) (refSequence env (stream s))
  items : ∀ s, WF env s → Fuel 5 f s → Sim env 3 s (parseItems env f s) (refItems env (stream s))
  assocs : ∀ s, WF env s → Fuel 2 f s → Sim env 3 s (parseAssociations env f s) (refAssociations env (stream s))
  assoc : ∀ s, WF env s → Fuel 0 f s → Sim env 2 s (parseAssociation env f s) (refAssociation env (stream s))
  inlineAssocs : ∀ s, WF env s → Fuel 1 f s →
    Sim env 2 s (parseInlineAssociations env f s) (refInlineAssociations env (stream s))
  inlineAssocLoop : ∀ {d : Nat} acc a s0 s, WF env s → Fuel 0 f s → stream s <:+ stream s0 →
    Sim env d s0 (inlineAssocLoop env f acc a s) (refInlineAssocLoop env acc a (stream s))
  multiAssocs : ∀ s, WF env s → Fuel 1 f s →
    Sim env 3 s (parseMultilineAssociations env f s) (refMultilineAssociations env (stream s))
  multiAssocLoop : ∀ {d : Nat} acc a tok s0 s, WF env s → Fuel 0 f s → stream s <:+ stream s0 →
    Sim env d s0 (multiAssocLoop env f acc a tok s) (refMultiAssocLoop env acc a (stream s))
  values : ∀ s, WF env s → Fuel 4 f s → Sim env 1 s (parseValues env f s) (refValues env (stream s))
  inlineValues : ∀ s, WF env s → Fuel 3 f s → Sim env 1 s (parseInlineValues env f s) (refInlineValues env (stream s))
  inlineValuesLoop : ∀ {d : Nat} acc v s0 s, WF env s → Fuel 0 f s → stream s <:+ stream s0 →
    Sim env d s0 (inlineValuesLoop env f acc v s) (refInlineValuesLoop env acc v (stream s))
  multiValues : ∀ s, WF env s → Fuel 1 f s → Sim env 1 s (parseMultilineValues env f s) (refMultilineValues env (stream s))
  multiValuesLoop : ∀ {d : Nat} acc v s0 s, WF env s → Fuel 0 f s → stream s <:+ stream s0 →
    Sim env d s0 (multiValuesLoop env f acc v s) (refMultiValuesLoop env acc v (stream s))

variable {env} in
/-- at depth 0 there is no refusal -/
theorem Sim.notNo {α : Type} {s : PS} {r : PR α} {o : Option (RefOut α)} (h : Sim env 0 s r o) : NotNo r := by
  cases h with
  | refuse _ _ hd => exact absurd hd (Nat.lt_irrefl 0)
  | _ => trivial

/-- **the simulation**, by induction on the fuel.  Each method is unfolded once on either side (`rw [parseX, refX]`);
    then every call it makes is taken by cases on what is known of it: `Step1` for the two primitives, the induction
    hypothesis for a method.
    * By the term `(…).casesOn` and not the tactic `cases`: the two outcomes are calls, not variables, and `cases`
      cannot eliminate on them; `casesOn` finds its motive by abstracting both in the goal at once.  The minor premises
      come in the order given at `Sim` and `Step1`.
    * In each case the goal computes: the model's `match` on a constructor and the reference's `seq` reduce.  So a bare
      constructor (`.accept`, `.refuse`, `.diag`, `.lib`: the outcome is passed on as it is), `Step1.fails`, `Sim.fails`
      or `Step1.refuses` is a minor premise as it stands: its type is what the goal computes to.
    * Where the proof goes on with another `casesOn` or a `rw`, which must find the next call in the goal,
      `dsimp only [seq_accept]` (`[seq_refuse]`) carries that computation out first: the `match` by iota, `seq` by
      the named equation.  Before a closing `exact` it is not needed. -/
theorem simulates (hcap : 3 < env.stackSize) : ∀ f, Simulates env f
  | 0 => by
    -- with the EOF sentinel in the stream, fuel 0 is never enough
    constructor
    all_goals intros; exact absurd (stream_nonempty_fuel env ‹WF env _› ‹Fuel _ 0 _›) (by decide)
  | f + 1 =>
    have ih := simulates hcap f
    { value := fun s hw hf => by
        rw [parseValue, refValue]
        refine (parseIntrinsic_spec hcap s hw).casesOn (fun v t s1 h1 _ => .accept v _ s1 h1.wf h1.suffix h1.tok)
          (fun t s1 hb _ => ?_) .diag
        exact Sim.alt ih.collection hf hb
      collection := fun s hw hf => by
        rw [parseCollection, refCollection]
        refine (ih.sequence s hw hf.sub).casesOn (fun items _ s1 hw1 hsuf1 _ => ?_) .refuse .diag .lib
        dsimp only [seq_accept]
        refine (parseToken_spec hcap .delimiter (some "(") s1 hw1).casesOn (fun _ _ s2 h2 _ => ?_) (Step1.fails 1 s) .diag
        dsimp only [seq_accept]
        refine (parseToken_spec hcap .type none s2 h2.wf).casesOn (fun ctx ty s3 h3 hty => ?_) (Step1.fails 1 s) .diag
        dsimp only [seq_accept]
        refine (parseToken_spec hcap .delimiter (some ")") s3 h3.wf).casesOn (fun _ _ s4 h4 _ => ?_) (Step1.fails 1 s) .diag
        have hctx : ctx ∈ ctxNames := hty.1 ▸ h2.wf.types ty (by rw [h3.eq]; simp) hty.2
        exact mkCollection_sim 1 _ _ _ s s4 h4.wf hctx h4.tok
          (h4.suffix.trans (h3.suffix.trans (h2.suffix.trans hsuf1)))
      sequence := fun s hw hf => by
        rw [parseSequence, refSequence]
        refine (parseToken_spec hcap .delimiter (some "[") s hw).casesOn (fun _ _ s1 h1 _ => ?_) Step1.refuses .diag
        dsimp only [seq_accept]
        refine (ih.items s1 h1.wf (hf.took h1)).casesOn (fun items _ s2 hw2 hsuf2 _ => ?_) (Sim.fails 1 s) .diag .lib
        dsimp only [seq_accept]
        exact (parseToken_spec hcap .delimiter (some "]") s2 hw2).casesOn
          (fun _ _ s3 h3 _ => .accept items _ s3 h3.wf (h3.suffix.trans (hsuf2.trans h1.suffix)) h3.tok)
          (Step1.fails 1 s) .diag
      items := fun s hw hf => by
        rw [parseItems, refItems]
        refine (ih.assocs s hw hf.sub).casesOn .accept (fun _ s1 _ hb _ => ?_) .diag .lib
        dsimp only [seq_refuse]
        -- `parseItems` re-matches the outcome of `parseValues` arm by arm: the cases carry it through
        exact (Sim.alt ih.values hf hb).casesOn .accept .refuse .diag .lib
      assocs := fun s hw hf => by
        rw [parseAssociations, refAssociations]
        refine (parseToken_spec hcap .delimiter (some ":") s hw).casesOn
          (fun _ _ s1 h1 _ => .accept [] _ s1 h1.wf h1.suffix h1.tok) (fun _ s1 hb _ => ?_) .diag
        dsimp only [seq_refuse]
        refine (Sim.alt ih.inlineAssocs hf (hb.mono (by decide : 1 ≤ 3))).casesOn
          .accept (fun _ s2 _ hb2 _ => ?_) .diag .lib
        exact Sim.alt ih.multiAssocs hf hb2
      assoc := fun s hw hf => by
        rw [parseAssociation, refAssociation]
        refine (parseIntrinsic_spec hcap s hw).casesOn (fun key t s1 h1 _ => ?_) Step1.refuses .diag
        dsimp only [seq_accept]
        refine (parseToken_spec hcap .delimiter (some ":") s1 h1.wf).casesOn (fun _ _ s2 h2 _ => ?_) (fun _ s2 hb _ => ?_) .diag
        · dsimp only [seq_accept]
          exact (ih.value s2 h2.wf (hf.took h1 h2.suffix)).casesOn
            (fun v tok s3 hw3 hsuf ht => .accept _ tok s3 hw3 (hsuf.trans (h2.suffix.trans h1.suffix)) ht)
            (Sim.fails 2 s) .diag .lib
        · -- not a key after all: the literal goes back in front of the stream
          obtain ⟨e, hb'⟩ := h1.putBack hcap hw hb (by decide)
          dsimp only
          rw [e]
          exact .refuse _ _ (by decide) hb' h1.tok
      inlineAssocs := fun s hw hf => by
        rw [parseInlineAssociations, refInlineAssociations]
        refine (ih.assoc s hw hf.sub).casesOn (fun a _ s1 hw1 hsuf _ => ?_) .refuse .diag .lib
        exact ih.inlineAssocLoop [] a s s1 hw1 (hf.sub hsuf) hsuf
      inlineAssocLoop := fun {d} acc a s0 s hw hf hs0 => by
        unfold inlineAssocLoop
        rw [refInlineAssocLoop]
        refine (parseToken_spec hcap .delimiter (some ",") s hw).casesOn (fun _ _ s1 h1 _ => ?_)
          (fun _ _ hb ht => .accept_back hb hs0 ht) .diag
        dsimp only [seq_accept]
        refine (ih.assoc s1 h1.wf (hf.took h1)).casesOn (fun a' _ s2 hw2 hsuf _ => ?_) (Sim.fails d s0) .diag .lib
        exact ih.inlineAssocLoop (catAdd acc a) a' s0 s2 hw2 (hf.took h1 hsuf) (hsuf.trans (h1.suffix.trans hs0))
      multiAssocs := fun s hw hf => by
        rw [parseMultilineAssociations, refMultilineAssociations]
        refine (parseToken_spec hcap .eol none s hw).casesOn (fun _ t s1 h1 _ => ?_) Step1.refuses .diag
        dsimp only [seq_accept]
        refine (ih.assoc s1 h1.wf (hf.took h1)).casesOn (fun a tok s2 hw2 hsuf _ => ?_) (fun tok s2 _ hb ht => ?_) .diag .lib
        · exact ih.multiAssocLoop [] a tok s s2 hw2 (hf.took h1 hsuf) (hsuf.trans h1.suffix)
        · -- a sequence of values after all: the EOL goes back in front of the stream
          obtain ⟨e, hb'⟩ := h1.putBack hcap hw hb (by decide)
          dsimp only
          rw [e]
          exact .refuse _ _ (by decide) hb' ht
      multiAssocLoop := fun {d} acc a tok0 s0 s hw hf hs0 => by
        unfold multiAssocLoop
        rw [refMultiAssocLoop]
        refine (parseToken_spec hcap .eol none s hw).casesOn (fun _ _ s1 h1 _ => ?_) (Step1.fails d s0) .diag
        dsimp only [seq_accept]
        refine (ih.assoc s1 h1.wf (hf.took h1)).casesOn (fun a' tok s2 hw2 hsuf _ => ?_)
          (fun _ _ _ hb ht => .accept_back hb (h1.suffix.trans hs0) ht) .diag .lib
        exact ih.multiAssocLoop (catAdd acc a) a' tok s0 s2 hw2 (hf.took h1 hsuf) (hsuf.trans (h1.suffix.trans hs0))
      values := fun s hw hf => by
        rw [parseValues, refValues]
        refine (parseToken_spec hcap .delimiter (some "]") s hw).casesOn (fun _ t s1 h1 _ => ?_) (fun _ s1 hb _ => ?_) .diag
        · -- an empty sequence: the bracket is put back for parseSequence
          obtain ⟨e, hb'⟩ := h1.putBack hcap (d := 0) hw (.refl h1.wf) (by decide)
          dsimp only [seq_accept]
          rw [e]
          exact .accept_back hb' (List.suffix_refl _) h1.tok
        · dsimp only [seq_refuse]
          refine (Sim.alt ih.inlineValues hf hb).casesOn
            .accept (fun _ s2 _ hb2 _ => ?_) .diag .lib
          exact Sim.alt ih.multiValues hf hb2
      inlineValues := fun s hw hf => by
        rw [parseInlineValues, refInlineValues]
        refine (ih.value s hw hf.sub).casesOn (fun v _ s1 hw1 hsuf _ => ?_) .refuse .diag .lib
        exact ih.inlineValuesLoop [] v s s1 hw1 (hf.sub hsuf) hsuf
      inlineValuesLoop := fun {d} acc v s0 s hw hf hs0 => by
        rw [inlineValuesLoop, refInlineValuesLoop]
        refine (parseToken_spec hcap .delimiter (some ",") s hw).casesOn (fun _ _ s1 h1 _ => ?_)
          (fun _ _ hb ht => .accept_back hb hs0 ht) .diag
        dsimp only [seq_accept]
        refine (ih.value s1 h1.wf (hf.took h1)).casesOn (fun v' _ s2 hw2 hsuf _ => ?_) (Sim.fails d s0) .diag .lib
        exact ih.inlineValuesLoop (acc ++ [v]) v' s0 s2 hw2 (hf.took h1 hsuf) (hsuf.trans (h1.suffix.trans hs0))
      multiValues := fun s hw hf => by
        rw [parseMultilineValues, refMultilineValues]
        refine (parseToken_spec hcap .eol none s hw).casesOn (fun _ _ s1 h1 _ => ?_) Step1.refuses .diag
        dsimp only [seq_accept]
        refine (ih.value s1 h1.wf (hf.took h1)).casesOn (fun v _ s2 hw2 hsuf _ => ?_) (Sim.fails 1 s) .diag .lib
        exact ih.multiValuesLoop [] v s s2 hw2 (hf.took h1 hsuf) (hsuf.trans h1.suffix)
      multiValuesLoop := fun {d} acc v s0 s hw hf hs0 => by
        rw [multiValuesLoop, refMultiValuesLoop]
        refine (parseToken_spec hcap .eol none s hw).casesOn (fun _ _ s1 h1 _ => ?_) (Step1.fails d s0) .diag
        dsimp only [seq_accept]
        refine (ih.value s1 h1.wf (hf.took h1)).casesOn (fun v' _ s2 hw2 hsuf _ => ?_)
          (fun _ _ _ hb ht => .accept_back hb (h1.suffix.trans hs0) ht) .diag .lib
        exact ih.multiValuesLoop (acc ++ [v]) v' s0 s2 hw2 (hf.took h1 hsuf) (hsuf.trans (h1.suffix.trans hs0)) }

/-- **every parse method behaves at every fuel**: the reference parser knows neither a runtime error nor a full
    push-back stack nor a hang, and with a total set constructor no library panic is left -/
theorem methods_total (hcap : 3 < env.stackSize) (hset : ∀ items, (env.mkSet items).isSome) (f : Nat) : IH env f :=
  have h := simulates env hcap f
  { value := fun s hw hf => (h.value s hw hf).post hset
    collection := fun s hw hf => (h.collection s hw hf).post hset
    sequence := fun s hw hf => (h.sequence s hw hf).post hset
    items := fun s hw hf => (h.items s hw hf).post hset
    assocs := fun s hw hf => (h.assocs s hw hf).post hset
    assoc := fun s hw hf => (h.assoc s hw hf).post hset
    inlineAssocs := fun s hw hf => (h.inlineAssocs s hw hf).post hset
    inlineAssocLoop := fun acc a s hw hf =>
      have hl := h.inlineAssocLoop (d := 0) acc a s s hw hf (List.suffix_refl _)
      ⟨hl.post hset, hl.notNo⟩
    multiAssocs := fun s hw hf => (h.multiAssocs s hw hf).post hset
    multiAssocLoop := fun acc a tok s hw hf =>
      have hl := h.multiAssocLoop (d := 0) acc a tok s s hw hf (List.suffix_refl _)
      ⟨hl.post hset, hl.notNo⟩
    values := fun s hw hf => (h.values s hw hf).post hset
    inlineValues := fun s hw hf => (h.inlineValues s hw hf).post hset
    inlineValuesLoop := fun acc v s hw hf =>
      have hl := h.inlineValuesLoop (d := 0) acc v s s hw hf (List.suffix_refl _)
      ⟨hl.post hset, hl.notNo⟩
    multiValues := fun s hw hf => (h.multiValues s hw hf).post hset
    multiValuesLoop := fun acc v s hw hf =>
      have hl := h.multiValuesLoop (d := 0) acc v s s hw hf (List.suffix_refl _)
      ⟨hl.post hset, hl.notNo⟩ }

/-- the loop of `ParseSource` behind the collection, stated from an earlier state `s0` like the loops of `Simulates` -/
theorem skipEols_sim (hcap : 3 < env.stackSize) (s0 : PS) : ∀ (f : Nat) (s : PS), WF env s → Fuel 0 f s → stream s <:+ stream s0 →
    Sim env 0 s0 (skipEols env f s) (refSkipEols (stream s))
  | 0, s, hw, hf, _ => absurd (stream_nonempty_fuel env hw hf) (by decide)
  | f + 1, s, hw, hf, hsuf => by
    rw [skipEols, refSkipEols]
    refine (parseToken_spec hcap .eol none s hw).casesOn (fun _ _ s1 h1 _ => ?_)
      (fun _ _ hb ht => .accept_back hb hsuf ht) .diag
    exact skipEols_sim hcap s0 f s1 h1.wf (hf.took h1) (h1.suffix.trans hsuf)

/-- the outcome of `ParseSource` against that of the reference; the cases in the order `value`, `diag`, `lib` -/
inductive SimSource : Parsed → Option (RefOut Val) → Prop
  | value (v : Val) (rest : List Token) : SimSource (.value v) (ret v rest)
  | diag (t : Token) : SimSource (.diag t) (some .diag)
  | lib (h : ¬ ∀ items, (env.mkSet items).isSome) : SimSource .lib (some .diag)

variable {env} in
theorem fail_simSource {tok : Option Token} (ht : TokOk env tok) :
    SimSource env (match fail env (α := Unit) tok with | .diag t => .diag t | .rt => .rt | _ => .lib) (some .diag) := by
  obtain ⟨t, e⟩ := fail_diag env (α := Unit) tok ht
  rw [e]; exact .diag t

variable {env} in
theorem SimSource.eq_value {r : Parsed} {v : Val} {rest : List Token} (h : SimSource env r (ret v rest)) : r = .value v := by
  cases h; rfl

/-- **`ParseSource` is the image of the reference**, run with the fuel `8 * tokens + 16` -/
theorem parseTokens_sim (hcap : 3 < env.stackSize) (toks : List Token) (hw : WF env { rest := toks, stack := [] }) :
    SimSource env (parseTokens env (8 * toks.length + 16) toks) (refSource env toks) := by
  show SimSource env _ (refSource env (stream { rest := toks, stack := [] }))
  rw [parseTokens, refSource]
  have fuel0 : Fuel 1 (8 * toks.length + 16) { rest := toks, stack := [] } := Nat.add_le_add_left (by decide : 1 ≤ 16) _
  refine ((simulates env hcap _).collection _ hw fuel0).casesOn
    (fun v _ s1 hw1 hsuf _ => ?_) (fun _ _ _ _ ht => fail_simSource ht) .diag .lib
  dsimp only [seq_accept]
  have fuel1 : Fuel 0 (8 * toks.length + 16) s1 :=
    Nat.le_trans (Nat.mul_le_mul_left 8 hsuf.length_le) (Nat.le_add_right _ 16)
  refine (skipEols_sim env hcap _ _ s1 hw1 fuel1 hsuf).casesOn
    (fun _ _ s2 hw2 _ _ => ?_) (fun _ _ hd => absurd hd (Nat.lt_irrefl 0)) .diag .lib
  dsimp only [seq_accept]
  -- the EOF: `parseToken_spec` does not cover it, there is no well-formed state behind it
  obtain ⟨t, rest, hs⟩ := hw2.head
  rw [hs, refToken]
  by_cases he : t.tt = .error
  · simp only [parseToken, getNext_error env s2 hw2 t rest hs he, if_pos he]; exact .diag t
  obtain ⟨s3, -, -, -, -, e⟩ := parseToken_head env hcap .eof none s2 hw2 t rest hs he
  rw [e, if_neg he]
  by_cases hm : tokMatches t .eof none = true
  · rw [if_pos hm, if_pos hm]; exact .value v rest
  · rw [if_neg hm, if_neg hm]; exact fail_simSource (tokOk_of_mem env s2 hw2 t (by simp [hs]))

end Cdcn
end CM
