/-
  C11, completeness half at token level — **every sentence of the rule definitions of
  Syntax.cdsn is accepted with its intended meaning**: for every syntax tree of

      AST: Collection EOL* EOF,  Collection: "[" Items "]" "(" type ")",
      Items: Values | Associations (inline, multi-line or empty), Association: Intrinsic ":" Value,
      Value: Intrinsic | Collection

  (nested without bound), whose literals the standard conversion accepts and whose contexts
  fit their items, the parser model returns exactly the collection the tree denotes –
  whatever the positions of the tokens, for every conversion oracle and push-back capacity ≥ 4.
  The lexical level (which character strings are which tokens) is the scanner's business:
  C11_scan_* for numbers, the correspondence run for the rest.
-/
import CollectionModel.Lemmas.ParseComplete
import CollectionModel.Props.C12Total
namespace CM
open CM.Cdcn

/-- **C11 (token level): every sentence is accepted with its intended meaning.**  If the
    scanner turns the source into the tokens of a syntax tree `Collection EOL* EOF` whose
    tokens are of the kinds the rules name and whose meaning is defined, `ParseSource`
    returns exactly that meaning. -/
theorem C11_sentence_accepted (src : Src) (stackSize : Nat) (hcap : 3 < stackSize) (conv : Token → Option Val)
    (mkSet : List Val → Option Val)
    (lb : Token) (items : SItems) (rb lp ty rp : Token) (eols : List Token) (eof : Token) (x : Val) :
    let env : Env := { stackSize := stackSize, nlines := (src.filter (· == 10)).length + 1, conv := conv, mkSet := mkSet }
    (SValue.coll lb items rb lp ty rp).Good →
    (SValue.coll lb items rb lp ty rp).mean env = some x →
    (∀ e ∈ eols, isEol e = true) → eof.tt = .eof →
    scan src = (SValue.coll lb items rb lp ty rp).toks ++ (eols ++ [eof]) →
    parseTokens env (8 * (scan src).length + 16) (scan src) = .value x := by
  intro env hg hm heols heof hscan
  have h := parseTokens_sim env hcap (scan src) (wf_initial env src rfl)
  rw [show refSource env (scan src) = _ from hscan ▸ rcSource env lb items rb lp ty rp eols eof x hg hm heols heof] at h
  exact h.eq_value

end CM
