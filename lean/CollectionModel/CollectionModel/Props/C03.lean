/-
  C03 — Catalog is an insertion-ordered map whose key index and order never diverge.
-/
import CollectionModel.Lemmas.AssocLemmas
import CollectionModel.Lemmas.SorterLemmas
namespace CM
open CM.Assoc CM.Seq CM.Sorter

variable {K V : Type} [DecidableEq K] [Inhabited K] [Inhabited V]

/-- **SetValue**: a new key is appended, an existing key has its value replaced in place,
    and the list and key index keep describing the same associations -/
theorem C03_set (c : Cat K V) (h : CatInv c) (k : K) (v : V) :
    (catSetValue c k v).assocs = specSet c.assocs k v ∧ CatInv (catSetValue c k v) := by
  rw [catSetValue_eq h, specSet_eq_mset]; exact ⟨rfl, h.mset k v⟩

/-- **RemoveValue**: deletes exactly that association and returns its value (zero when absent) -/
theorem C03_remove (c : Cat K V) (h : CatInv c) (k : K) :
    ∃ c', catRemoveValue c k = .ok ((lookup k c.assocs).getD default, c') ∧
      c'.assocs = specDel c.assocs k ∧ CatInv c' :=
  ⟨_, catRemoveValue_eq h k, by rw [specDel_eq_mremove], h.mremove k⟩

/-- **RemoveValues**: one key after another; the values come back in request order -/
theorem C03_removeValues : ∀ (ks : List K) (c : Cat K V), CatInv c →
    ∃ c', catRemoveValues c ks = .ok (specRemoved c.assocs ks, c') ∧
      c'.assocs = ks.foldl specDel c.assocs ∧ CatInv c' :=
  fun ks _ h => ⟨_, catRemoveValues_eq ks h, by rw [specDel_eq_mremove], h.foldl_mremove ks⟩

/-- **the views always describe the same associations** -/
theorem C03_views_agree (c : Cat K V) (h : CatInv c) (k : K) :
    catGetValue c k = (lookup k c.assocs).getD default ∧
    (c.assocs.map (·.1)).Nodup ∧
    (k ∈ c.assocs.map (·.1) ↔ (lookup k c.keys).isSome) :=
  ⟨by rw [catGetValue, h.same], h.nodupA, by rw [h.same]; exact mem_keys_iff⟩

/-- **sorting, reversing or shuffling changes only the order, never the mapping** -/
theorem C03_reorder (c : Cat K V) (h : CatInv c) (l : List (K × V)) (hp : l.Perm c.assocs) :
    CatInv { c with assocs := l } ∧ ∀ k, lookup k l = lookup k c.assocs :=
  have hn : NodupKeys l := h.nodupA.perm hp
  ⟨⟨hn, h.nodupK, fun k => (h.same k).trans (lookup_perm hp hn k).symm⟩, lookup_perm hp hn⟩

def Assoc.catAfter (o : CObs K V) (c : Cat K V) : Cat K V :=
  match o with
  | .ret c' _ => c'
  | .panic c' _ => c'
  | .hang => c

def Assoc.COp.wf (c : Cat K V) : COp K V → Prop
  | .shuffle rs => rs.length ≤ c.assocs.length ∧ ∀ r ∈ rs, r < c.assocs.length
  | _ => True

/-- **the invariant holds after every call** (constructors included) -/
theorem C03_step_inv (rank : (K × V) → (K × V) → Rank) (c : Cat K V) (h : CatInv c) (op : COp K V)
    (hwf : op.wf c) : CatInv (Assoc.catAfter (catStep rank c op) c) := by
  cases op with
  | setValue k v => dsimp only [catStep]; rw [catSetValue_eq h]; exact h.mset k v
  | removeValue k => dsimp only [catStep]; rw [catRemoveValue_eq h]; exact h.mremove k
  | removeValues ks => dsimp only [catStep]; rw [catRemoveValues_eq ks h]; exact h.foldl_mremove ks
  | removeAll => exact catEmpty_inv
  | sort => exact (C03_reorder c h _ (arraySort_eq rank _ ▸ sortValues_perm rank _)).1
  | reverse => exact (C03_reorder c h _ (reverseValues_eq c.assocs ▸ List.reverse_perm _)).1
  | shuffle rs => exact (C03_reorder c h _ (shuffleValues_perm rs c.assocs hwf.1 hwf.2)).1
  | make ps => exact (catMakeFrom_spec ps).1
  | merge a b => exact (catMerge_spec a b).1
  | extract src ks => exact (catExtract_spec src ks).1
  | _ => exact h

def Assoc.catRun (rank : (K × V) → (K × V) → Rank) : Cat K V → List (COp K V) → Cat K V
  | c, [] => c
  | c, op :: ops => Assoc.catRun rank (Assoc.catAfter (catStep rank c op) c) ops

/-- **after any finite history the key index and the order describe the same associations** -/
theorem C03_history_inv (rank : (K × V) → (K × V) → Rank) :
    ∀ (ops : List (COp K V)) (c : Cat K V), CatInv c → (∀ op ∈ ops, ∀ d, Assoc.COp.wf d op) →
      CatInv (Assoc.catRun rank c ops)
  | [], _, h, _ => h
  | op :: ops, c, h, hw =>
    C03_history_inv rank ops _ (C03_step_inv rank c h op (hw op List.mem_cons_self c))
      fun o ho => hw o (List.mem_cons_of_mem _ ho)

/-- the key index may hold the associations in another order than the list -/
example : CatInv ({ assocs := [((1 : Int), (5 : Int)), (2, 5)], keys := [(2, 5), (1, 5)] } : Cat Int Int) := by
  refine ⟨by simp [NodupKeys], by simp [NodupKeys], ?_⟩
  intro k
  by_cases h1 : (1 : Int) = k <;> by_cases h2 : (2 : Int) = k <;> simp [lookup, h1, h2] <;> omega

end CM
