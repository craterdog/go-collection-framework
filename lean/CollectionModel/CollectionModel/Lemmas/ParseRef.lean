/-
  A reference parser for the token grammar of `Syntax.cdsn`, beside the model of `cdcn/parser.go`: the same
  methods as functions of the token list alone.  An alternative that does not apply refuses, and the next one is
  given the same list: no push-back stack, no token beside the result, no fuel.  The functions are partial
  (`none`: the list ran out, or the recursion does not end); that they are defined on every stream the scanner
  delivers is part of what the simulation in `ParseTotal` proves.

  How the parser files hang together: `ParseLemmas` (the primitives) ← `ParseRef` ← `ParseTotal` (the simulation) and,
  beside it, `ParseComplete` (completeness of the reference: needs `ParseRef` only).  `Props/C11Complete` and
  `Props/C12Total` read `parseTokens_sim` (with `rcSource` for C11).  `methods_total` with `IH`/`Post`/`NotNo` and all of
  `ParseCompleteModel` say what the two give for the methods of the model one by one: nothing downstream uses them.
-/
import CollectionModel.Lemmas.ParseLemmas
namespace CM
namespace Cdcn

inductive RefOut (α : Type)
  | accept (a : α) (rest : List Token)
  | refuse
  | diag

namespace RefOut

/-- `x`, then `k` on the value it accepts and the tokens behind it, `n` where it refuses -/
def seq {α β : Type} (x : Option (RefOut α)) (n : Option (RefOut β)) (k : α → List Token → Option (RefOut β)) :
    Option (RefOut β) :=
  x.bind fun o => match o with
    | .accept a rest => k a rest
    | .refuse => n
    | .diag => some .diag

/-- what must follow: a refusal is the diagnostic -/
abbrev must {α β : Type} (x : Option (RefOut α)) (k : α → List Token → Option (RefOut β)) : Option (RefOut β) :=
  seq x (some .diag) k

abbrev ret {α : Type} (a : α) (rest : List Token) : Option (RefOut α) := some (.accept a rest)

theorem seq_accept {α β : Type} (a : α) (rest : List Token) (n : Option (RefOut β)) (k : α → List Token → Option (RefOut β)) :
    seq (ret a rest) n k = k a rest := rfl

theorem seq_refuse {α β : Type} (n : Option (RefOut β)) (k : α → List Token → Option (RefOut β)) :
    seq (some .refuse) n k = n := rfl

open Lean.Order in
@[partial_fixpoint_monotone]
theorem monotone_seq {α β γ : Type} [PartialOrder γ] (x : γ → Option (RefOut α)) (n : γ → Option (RefOut β))
    (k : γ → α → List Token → Option (RefOut β)) (hx : monotone x) (hn : monotone n) (hk : monotone k) :
    monotone fun g => seq (x g) (n g) (k g) := by
  refine monotone_bind Option x (fun g o => match o with | .accept a rest => k g a rest | .refuse => n g | .diag => some .diag) hx ?_
  refine monotone_of_monotone_apply _ fun o => ?_
  cases o with
  | accept a rest => exact monotone_apply rest _ (monotone_apply a _ hk)
  | refuse => exact hn
  | diag => exact monotone_const _

end RefOut
open RefOut

variable (env : Env)

def refToken (tt : TT) (val : Option String) : List Token → Option (RefOut (List Nat))
  | [] => none
  | t :: rest => some (if t.tt = .error then .diag else if tokMatches t tt val = true then .accept t.value rest else .refuse)

def refIntrinsic : List Token → Option (RefOut Val)
  | [] => none
  | t :: rest => some (
      if t.tt = .error then .diag
      else if isLiteralKind t.tt = true then (match env.conv t with | some v => .accept v rest | none => .diag)
      else .refuse)

def refMk (ctx : List Nat) (items : List Val) (rest : List Token) : Option (RefOut Val) :=
  some (match collOf env.mkSet ctx items with | some x => .accept x rest | none => .diag)

def catAdd (acc : List (Val × Val)) : Val → List (Val × Val)
  | .assoc k v => Val.catalogSet acc k v
  | _ => acc

def catItems (acc : List (Val × Val)) : List Val := acc.map fun p => .assoc p.1 p.2

mutual
def refValue (ts : List Token) : Option (RefOut Val) :=
  seq (refIntrinsic env ts) (refCollection ts) ret
partial_fixpoint
def refCollection (ts : List Token) : Option (RefOut Val) :=
  seq (refSequence ts) (some .refuse) fun items r1 => must (refToken .delimiter (some "(") r1) fun _ r2 =>
    must (refToken .type none r2) fun ctx r3 => must (refToken .delimiter (some ")") r3) fun _ r4 => refMk env ctx items r4
partial_fixpoint
def refSequence (ts : List Token) : Option (RefOut (List Val)) :=
  seq (refToken .delimiter (some "[") ts) (some .refuse) fun _ r1 => must (refItems r1) fun items r2 =>
    must (refToken .delimiter (some "]") r2) fun _ r3 => ret items r3
partial_fixpoint
def refItems (ts : List Token) : Option (RefOut (List Val)) :=
  seq (refAssociations ts) (refValues ts) ret
partial_fixpoint
def refAssociations (ts : List Token) : Option (RefOut (List Val)) :=
  seq (refToken .delimiter (some ":") ts) (seq (refInlineAssociations ts) (refMultilineAssociations ts) ret) fun _ r => ret [] r
partial_fixpoint
def refAssociation (ts : List Token) : Option (RefOut Val) :=
  seq (refIntrinsic env ts) (some .refuse) fun key r1 => seq (refToken .delimiter (some ":") r1) (some .refuse) fun _ r2 =>
    must (refValue r2) fun v r3 => ret (.assoc key v) r3
partial_fixpoint
def refInlineAssocLoop (acc : List (Val × Val)) (a : Val) (ts : List Token) : Option (RefOut (List Val)) :=
  seq (refToken .delimiter (some ",") ts) (ret (catItems (catAdd acc a)) ts) fun _ r1 => must (refAssociation r1) fun a' r2 =>
    refInlineAssocLoop (catAdd acc a) a' r2
partial_fixpoint
def refInlineAssociations (ts : List Token) : Option (RefOut (List Val)) :=
  seq (refAssociation ts) (some .refuse) fun a r => refInlineAssocLoop [] a r
partial_fixpoint
def refMultiAssocLoop (acc : List (Val × Val)) (a : Val) (ts : List Token) : Option (RefOut (List Val)) :=
  must (refToken .eol none ts) fun _ r1 => seq (refAssociation r1) (ret (catItems (catAdd acc a)) r1) fun a' r2 =>
    refMultiAssocLoop (catAdd acc a) a' r2
partial_fixpoint
def refMultilineAssociations (ts : List Token) : Option (RefOut (List Val)) :=
  seq (refToken .eol none ts) (some .refuse) fun _ r1 => seq (refAssociation r1) (some .refuse) fun a r2 => refMultiAssocLoop [] a r2
partial_fixpoint
/-- `"]"` ahead: looked at, not taken -/
def refValues (ts : List Token) : Option (RefOut (List Val)) :=
  seq (refToken .delimiter (some "]") ts) (seq (refInlineValues ts) (refMultilineValues ts) ret) fun _ _ => ret [] ts
partial_fixpoint
def refInlineValuesLoop (acc : List Val) (v : Val) (ts : List Token) : Option (RefOut (List Val)) :=
  seq (refToken .delimiter (some ",") ts) (ret (acc ++ [v]) ts) fun _ r1 => must (refValue r1) fun v' r2 => refInlineValuesLoop (acc ++ [v]) v' r2
partial_fixpoint
def refInlineValues (ts : List Token) : Option (RefOut (List Val)) :=
  seq (refValue ts) (some .refuse) fun v r => refInlineValuesLoop [] v r
partial_fixpoint
def refMultiValuesLoop (acc : List Val) (v : Val) (ts : List Token) : Option (RefOut (List Val)) :=
  must (refToken .eol none ts) fun _ r1 => seq (refValue r1) (ret (acc ++ [v]) r1) fun v' r2 => refMultiValuesLoop (acc ++ [v]) v' r2
partial_fixpoint
def refMultilineValues (ts : List Token) : Option (RefOut (List Val)) :=
  seq (refToken .eol none ts) (some .refuse) fun _ r1 => must (refValue r1) fun v r2 => refMultiValuesLoop [] v r2
partial_fixpoint
end

/-- the loop of `ParseSource` that skips the ends of line behind the collection -/
def refSkipEols (ts : List Token) : Option (RefOut Unit) :=
  seq (refToken .eol none ts) (ret () ts) fun _ r => refSkipEols r
partial_fixpoint

/-- `ParseSource`: a collection, ends of line, the EOF -/
def refSource (ts : List Token) : Option (RefOut Val) :=
  must (refCollection env ts) fun v r1 => must (refSkipEols r1) fun _ r2 => must (refToken .eof none r2) fun _ r3 => ret v r3

/-- `t` was taken from the front of `s`, leaving `s'` -/
structure Took (s : PS) (t : Token) (s' : PS) : Prop where
  eq : stream s = t :: stream s'
  wf : WF env s'
  tok : TokOk env (some t)
  stk : s'.stack.length = s.stack.length - 1
  ne : t.tt ≠ .error

/-- `s'` has the stream of `s` again, what was looked at pushed back: the stack has grown to `d` at most -/
structure Back (s : PS) (d : Nat) (s' : PS) : Prop where
  wf : WF env s'
  eq : stream s' = stream s
  stk : s'.stack.length ≤ max s.stack.length d

/-- the outcome `r` of a method of the model started in state `s`, against the reference outcome: the same value with
    the same tokens left; a refusal that has restored the stream, the stack grown to `d` at most (at `d = 0` there is
    none: the loops); a diagnostic.  The reference parser knows no library: where it rejects for want of a
    collection, the model may have met a panicking set constructor (`lib`).  A proof by `casesOn` gives the cases
    in this order: `accept`, `refuse`, `diag`, `lib`. -/
inductive Sim (d : Nat) (s : PS) {α : Type} : PR α → Option (RefOut α) → Prop
  | accept (a : α) (tok : Option Token) (s' : PS) (hw : WF env s') (hsuf : stream s' <:+ stream s) (ht : TokOk env tok) :
      Sim d s (.ok a tok s') (ret a (stream s'))
  | refuse (tok : Option Token) (s' : PS) (hd : 0 < d) (hb : Back env s d s') (ht : TokOk env tok) :
      Sim d s (.no tok s') (some .refuse)
  | diag (t : Token) : Sim d s (.diag t) (some .diag)
  | lib (h : ¬ ∀ items, (env.mkSet items).isSome) : Sim d s .lib (some .diag)

/-- `parseToken` and `parseIntrinsic` look at one token: they take it (`P` of what they return and the token), or
    refuse and put it back, or it is the error token (`casesOn`: `ok`, `no`, `diag`) -/
inductive Step1 {α : Type} (P : α → Token → Prop) (s : PS) : PR α → Option (RefOut α) → Prop
  | ok (a : α) (t : Token) (s' : PS) (h : Took env s t s') (hP : P a t) : Step1 P s (.ok a (some t) s') (ret a (stream s'))
  | no (t : Token) (s' : PS) (hb : Back env s 1 s') (ht : TokOk env (some t)) : Step1 P s (.no (some t) s') (some .refuse)
  | diag (t : Token) : Step1 P s (.diag t) (some .diag)

variable {env}

theorem Took.suffix {s s' : PS} {t : Token} (h : Took env s t s') : stream s' <:+ stream s :=
  ⟨[t], h.eq.symm⟩

theorem le_max_trans {a b c d d' : Nat} (hb : b ≤ max a d) (hc : c ≤ max b d') (hd : d' ≤ d) : c ≤ max a d :=
  Nat.le_trans hc (Nat.max_le.mpr ⟨hb, Nat.le_trans hd (Nat.le_max_right ..)⟩)

theorem Back.trans {s s' s'' : PS} {d d' : Nat} (h : Back env s d s') (h' : Back env s' d' s'') (hd : d' ≤ d) : Back env s d s'' :=
  ⟨h'.wf, h'.eq.trans h.eq, le_max_trans h.stk h'.stk hd⟩

theorem Back.mono {s s' : PS} {d e : Nat} (h : Back env s d s') (hd : d ≤ e) : Back env s e s' :=
  ⟨h.wf, h.eq, le_max_trans (Nat.le_max_left ..) h.stk hd⟩

theorem Back.refl {s : PS} {d : Nat} (hw : WF env s) : Back env s d s :=
  ⟨hw, rfl, Nat.le_max_left ..⟩

theorem Back.suffix {s s' : PS} {d : Nat} (h : Back env s d s') : stream s' <:+ stream s :=
  h.eq ▸ List.suffix_refl _

/-- a call: one unit less, for a callee of smaller offset (default: checked by `decide`) on a stream that is no
    longer (default: the same) -/
theorem Fuel.sub {off off' f : Nat} {s s' : PS} (hf : Fuel off (f + 1) s) (hsuf : stream s' <:+ stream s := by exact List.suffix_refl _)
    (ho : off' < off := by decide) :
    Fuel off' f s' := by
  have hlen : 8 * (stream s').length ≤ 8 * (stream s).length := Nat.mul_le_mul_left 8 hsuf.length_le
  exact Nat.le_of_succ_le_succ (Nat.le_trans (Nat.add_le_add hlen ho) hf)

/-- a call behind a token that was taken: any callee (offset at most 7 more: `decide`), anywhere behind the token
    (default: directly behind it) -/
theorem Fuel.took {off off' f : Nat} {s s1 s' : PS} {t : Token} (hf : Fuel off (f + 1) s) (h1 : Took env s t s1)
    (hsuf : stream s' <:+ stream s1 := by exact List.suffix_refl _) (ho : off' ≤ off + 7 := by decide) : Fuel off' f s' := by
  -- a token is worth eight units: behind it the offset is that much larger
  have e : 8 * ((stream s1).length + 1) + off = 8 * (stream s1).length + (off + 8) := by
    rw [Nat.mul_succ, Nat.add_assoc, Nat.add_comm 8 off]
  have behind : Fuel (off + 8) (f + 1) s1 := by
    unfold Fuel at hf ⊢
    rwa [h1.eq, List.length_cons, e] at hf
  exact behind.sub hsuf (Nat.succ_le_succ ho)

theorem succ_le_max_succ {a c d : Nat} (hc : c ≤ max (a - 1) d) : c + 1 ≤ max a (d + 1) := by
  cases a with
  | zero =>
    have hcd : c ≤ d := Nat.zero_max d ▸ hc
    exact Nat.le_trans (Nat.succ_le_succ hcd) (Nat.le_max_right ..)
  | succ n => exact Nat.succ_max_succ n d ▸ Nat.succ_le_succ hc

/-- the token taken from `s` is put back on a state `s2` that has the stream behind it again and a stack grown to
    `d ≤ 2` at most: there is room, and `s` is restored, its stack grown to `d + 1` at most -/
theorem Took.putBack (hcap : 3 < env.stackSize) {s s1 s2 : PS} {t : Token} {d : Nat} (hw : WF env s) (h1 : Took env s t s1)
    (hb : Back env s1 d s2) (hd : d ≤ 2) :
    (∀ {α : Type} (k : PS → PR α), putBack env t s2 k = k { s2 with stack := t :: s2.stack }) ∧
      Back env s (d + 1) { s2 with stack := t :: s2.stack } := by
  have hk : s2.stack.length ≤ max (s.stack.length - 1) d := h1.stk ▸ hb.stk
  have fits : s2.stack.length ≤ 2 := Nat.le_trans hk (Nat.max_le.mpr ⟨Nat.sub_le_sub_right hw.stk 1, hd⟩)
  obtain ⟨e, hs', hw'⟩ := putBack_restores env hcap s hw t _ h1.eq h1.ne s2 hb.eq hb.wf.noErr fits
  exact ⟨e, hw', hs', succ_le_max_succ hk⟩

theorem fail_sim {α : Type} (d : Nat) (s : PS) {tok : Option Token} (ht : TokOk env tok) :
    Sim env d s (fail env (α := α) tok) (some .diag) := by
  obtain ⟨t, e⟩ := fail_diag env (α := α) tok ht
  rw [e]; exact .diag t

/-- what must follow is refused: the diagnostic.  `Step1.fails d s` is the `no` case of a `casesOn` on `Step1`,
    `Sim.fails d s` the `refuse` case on `Sim`: the arguments they do not use are those the case supplies. -/
theorem Step1.fails {α : Type} (d : Nat) (s : PS) {s0 : PS} (t : Token) (s' : PS) (_ : Back env s0 1 s')
    (ht : TokOk env (some t)) : Sim env d s (fail env (α := α) (some t)) (some .diag) :=
  fail_sim d s ht

/-- what a method looks at first is refused: the method refuses (the `no` case of `Step1`) -/
theorem Step1.refuses {α : Type} {d : Nat} {s : PS} (hd : 0 < d := by decide) (t : Token) (s' : PS) (hb : Back env s 1 s')
    (ht : TokOk env (some t)) : Sim env d s (.no (some t) s' : PR α) (some .refuse) :=
  .refuse _ s' hd (hb.mono hd) ht

theorem Sim.fails {α : Type} (d : Nat) (s : PS) {d0 : Nat} {s0 : PS} (tok : Option Token) (s' : PS) (_ : 0 < d0)
    (_ : Back env s0 d0 s') (ht : TokOk env tok) : Sim env d s (fail env (α := α) tok) (some .diag) :=
  fail_sim d s ht

theorem Sim.post {α : Type} {d : Nat} {s : PS} {r : PR α} {o : Option (RefOut α)} (hset : ∀ items, (env.mkSet items).isSome)
    (h : Sim env d s r o) : Post env d s r := by
  cases h with
  | accept a tok s' hw hsuf ht => exact .ok a tok s' hw (hsuf.imp fun _ h => h.symm) ht
  | refuse tok s' _ hb ht => exact .no tok s' hb.wf hb.eq hb.stk ht
  | diag t => exact .diag t
  | lib h => exact absurd hset h

theorem Sim.of_back {α : Type} {d d' : Nat} {s s' : PS} {r : PR α} {o : Option (RefOut α)} (hb : Back env s d s') (hd : d' ≤ d)
    (h : Sim env d' s' r o) : Sim env d s r o := by
  cases h with
  | accept a tok s'' hw hsuf ht => exact .accept a tok s'' hw (hb.eq ▸ hsuf) ht
  | refuse tok s'' hd' hb' ht => exact .refuse tok s'' (Nat.lt_of_lt_of_le hd' hd) (hb.trans hb' hd) ht
  | diag t => exact .diag t
  | lib h => exact .lib h

/-- the next alternative `m` (with reference `r`, what is known of it `h`) is tried from `s'`, where the stream of `s`
    has been restored: its outcome counts from `s` -/
theorem Sim.alt {α : Type} {d d' off off' f : Nat} {s s' : PS} {m : PS → PR α} {r : List Token → Option (RefOut α)}
    (h : ∀ s1, WF env s1 → Fuel off' f s1 → Sim env d' s1 (m s1) (r (stream s1))) (hf : Fuel off (f + 1) s)
    (hb : Back env s d s') (ho : off' < off := by decide) (hd : d' ≤ d := by decide) : Sim env d s (m s') (r (stream s)) :=
  hb.eq ▸ (h s' hb.wf (hf.sub hb.suffix ho)).of_back hb hd

/-- a method accepts in a state where the stream of `s0` has been restored: it has consumed what led to `s0` -/
theorem Sim.accept_back {α : Type} {d d0 : Nat} {s s0 s' : PS} {a : α} {tok : Option Token} (hb : Back env s0 d0 s')
    (hsuf : stream s0 <:+ stream s) (ht : TokOk env tok) : Sim env d s (.ok a tok s') (ret a (stream s0)) :=
  hb.eq ▸ .accept a tok s' hb.wf (hb.eq ▸ hsuf) ht

theorem mkCollection_sim (d : Nat) (ctx : List Nat) (items : List Val) (tok : Option Token) (s0 s : PS) (hw : WF env s)
    (hctx : ctx ∈ ctxNames) (ht : TokOk env tok) (hsuf : stream s <:+ stream s0) :
    Sim env d s0 (mkCollection env ctx items tok s) (refMk env ctx items (stream s)) := by
  rw [refMk]
  rcases mkCollection_spec env ctx items tok s with e | ⟨e, e', h | h⟩
  · rw [e]
    cases collOf env.mkSet ctx items with
    | some x => exact .accept x tok s hw hsuf ht
    | none => exact fail_sim d s0 ht
  · rw [e, e']
    exact .lib fun hset => by have := hset items; rw [h] at this; cases this
  · exact absurd hctx h

theorem parseToken_spec (hcap : 3 < env.stackSize) (tt : TT) (val : Option String) (s : PS) (h : WF env s)
    (htt : tt ≠ .eof := by decide) :
    Step1 env (fun a t => a = t.value ∧ t.tt = tt) s (parseToken env tt val s) (refToken tt val (stream s)) := by
  obtain ⟨t, rest, hs⟩ := h.head
  have htok := tokOk_of_mem env s h t (by simp [hs])
  rw [hs, refToken]
  by_cases he : t.tt = .error
  · simp only [parseToken, getNext_error env s h t rest hs he, if_pos he]; exact .diag t
  rw [if_neg he]
  cases hm : tokMatches t tt val with
  | false =>
    obtain ⟨s', e, hs', hw', hk⟩ := parseToken_miss env hcap tt val s h t rest hs hm he
    rw [e]; exact .no t s' ⟨hw', hs', Nat.le_of_eq hk⟩ htok
  | true =>
    have ht := tokMatches_tt hm
    obtain ⟨s', e, hs', hw', hk⟩ := parseToken_hit env hcap tt val s h t rest hs hm (ht ▸ he) htt
    subst hs'
    rw [e]; exact .ok t.value t s' ⟨hs, hw', htok, hk, he⟩ ⟨rfl, ht⟩

theorem parseIntrinsic_spec (hcap : 3 < env.stackSize) (s : PS) (h : WF env s) :
    Step1 env (fun _ _ => True) s (parseIntrinsic env s) (refIntrinsic env (stream s)) := by
  obtain ⟨t, rest, hs⟩ := h.head
  have htok := tokOk_of_mem env s h t (by simp [hs])
  rw [hs, refIntrinsic]
  by_cases he : t.tt = .error
  · simp only [parseIntrinsic, parseIntrinsic.go, parseToken, getNext_error env s h t rest hs he, if_pos he]; exact .diag t
  rw [if_neg he]
  cases hl : isLiteralKind t.tt with
  | false =>
    obtain ⟨s', e, hs', hw', hk⟩ := parseIntrinsic_miss env hcap s h t rest hs hl he
    rw [e]; exact .no t s' ⟨hw', hs', Nat.le_of_eq hk⟩ htok
  | true =>
    obtain ⟨s', e, hs', hw', hk⟩ := parseIntrinsic_lit env hcap s h t rest hs hl
    subst hs'
    rw [e]
    cases env.conv t with
    | some v => exact .ok v t s' ⟨hs, hw', htok, hk, he⟩ trivial
    | none => obtain ⟨t', ht'⟩ := fail_diag env (α := Val) (some t) htok; rw [ht']; exact .diag t'

end Cdcn
end CM
