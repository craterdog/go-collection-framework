/-
  C19 — Distinct instances are independent across goroutines.

  Statement (properties.jsonl): any mix of operations on different collection,
  iterator, collator, sorter, formatter and notation instances performed from
  different goroutines yields the same results as running them one after
  another, with no data race; the generic class accessors may be called
  concurrently and always return the one class for that type.

  Proved for any number of goroutines and actions and every schedule; the results of
  a call are locations of the memory too, so they agree as well.
  What is NOT proved: that the Go code's accesses are the ones in the sharing
  table (that is the extractor's job, checked by `Generated/Sharing.lean` and by
  the race-detector matrix), and the Go memory model itself.
-/
import CollectionModel.Model.Footprint
namespace CM
open CM.Footprint

/-- at a location that `a` writes: `b` leaves it alone, and leaves alone all that `a` reads -/
theorem commute_at {a b : Act} (ha : a.WB) (hb : b.WB) (hi : a.indep b) (m : Mem) {l : Loc} (hl : l ∈ a.wr) :
    a.eff (b.eff m) l = b.eff (a.eff m) l := by
  rw [hb.frame _ l (hi.1 l hl).2]
  exact ha.loc _ _ (fun l' hl' => hb.frame _ l' fun hw => hl'.elim (hi.2 l' hw).1 (hi.2 l' hw).2) l hl

theorem indep_symm {a b : Act} (h : a.indep b) : b.indep a := ⟨h.2, h.1⟩

/-- **two independent well-behaved actions commute** -/
theorem C19_commute (a b : Act) (ha : a.WB) (hb : b.WB) (hi : a.indep b) (m : Mem) :
    a.eff (b.eff m) = b.eff (a.eff m) := by
  funext l
  by_cases hla : l ∈ a.wr
  · exact commute_at ha hb hi m hla
  · by_cases hlb : l ∈ b.wr
    · exact (commute_at hb ha (indep_symm hi) m hlb).symm
    · rw [ha.frame _ l hla, hb.frame _ l hlb, hb.frame _ l hlb, ha.frame _ l hla]

theorem run_append (l1 l2 : List Act) (m : Mem) : run (l1 ++ l2) m = run l2 (run l1 m) := by
  simp [run, List.foldl_append]

theorem run_swap (b : Act) (hb : b.WB) : ∀ (l : List Act) (m : Mem),
    (∀ a ∈ l, a.WB ∧ a.indep b) → run l (b.eff m) = b.eff (run l m)
  | [], _, _ => rfl
  | a :: l, m, h => by
    have ha := h a (by simp)
    simp only [run, List.foldl_cons]
    rw [C19_commute a b ha.1 hb ha.2 m]
    exact run_swap b hb l (a.eff m) (fun x hx => h x (by simp [hx]))

def AllWB (ts : List (List Act)) : Prop := ∀ t ∈ ts, ∀ a ∈ t, a.WB

def CrossIndep (ts : List (List Act)) : Prop :=
  ∀ (i j : Nat) (hi : i < ts.length) (hj : j < ts.length), i ≠ j → ∀ a ∈ ts[i], ∀ b ∈ ts[j], a.indep b

/-- `CrossIndep` speaks of positions; the induction below splits the list of goroutines, where
    the same is said by `Pairwise` -/
theorem CrossIndep.pairwise {ts : List (List Act)} (h : CrossIndep ts) :
    ts.Pairwise fun t u => ∀ a ∈ t, ∀ b ∈ u, a.indep b :=
  List.pairwise_iff_getElem.mpr fun i j hi hj hij => h i j hi hj (Nat.ne_of_lt hij)

theorem schedule_independent_pairwise {ts : List (List Act)} {l : List Act} (hl : Interleave ts l) :
    AllWB ts → (ts.Pairwise fun t u => ∀ a ∈ t, ∀ b ∈ u, a.indep b) → ∀ m, run l m = run ts.flatten m := by
  induction hl with
  | done ts h => intro _ _ m; rw [List.flatten_eq_nil_iff.mpr h]
  | step pre post a t l _ ih =>
    intro hwb hp m
    obtain ⟨hpre, hrest, hcross⟩ := List.pairwise_append.mp hp
    obtain ⟨hhead, hpost⟩ := List.pairwise_cons.mp hrest
    have hat : a :: t ∈ pre ++ (a :: t) :: post := List.mem_append_right _ List.mem_cons_self
    have ha : a.WB := hwb _ hat a List.mem_cons_self
    have hwb' : AllWB (pre ++ t :: post) := fun u hu x hx => by
      rcases List.mem_append.mp hu with hu | hu
      · exact hwb u (List.mem_append_left _ hu) x hx
      · rcases List.mem_cons.mp hu with rfl | hu
        · exact hwb _ hat x (List.mem_cons_of_mem _ hx)
        · exact hwb u (by simp [hu]) x hx
    have hp' : (pre ++ t :: post).Pairwise fun t u => ∀ a ∈ t, ∀ b ∈ u, a.indep b :=
      List.pairwise_append.mpr ⟨hpre,
        List.pairwise_cons.mpr ⟨fun u hu x hx => hhead u hu x (List.mem_cons_of_mem _ hx), hpost⟩,
        fun u hu w hw => by
          rcases List.mem_cons.mp hw with rfl | hw
          · exact fun x hx y hy => hcross u hu _ List.mem_cons_self x hx y (List.mem_cons_of_mem _ hy)
          · exact hcross u hu w (List.mem_cons_of_mem _ hw)⟩
    -- `a` is moved in front of everything the goroutines before its own do
    have hmove : ∀ x ∈ pre.flatten, x.WB ∧ x.indep a := fun x hx => by
      obtain ⟨u, hu, hxu⟩ := List.mem_flatten.mp hx
      exact ⟨hwb u (List.mem_append_left _ hu) x hxu, hcross u hu _ List.mem_cons_self x hxu a List.mem_cons_self⟩
    show run l (a.eff m) = _
    rw [ih hwb' hp', List.flatten_append, List.flatten_append, run_append, run_append, run_swap a ha _ m hmove]
    rfl

/-- **every schedule is equivalent to the sequential one**: any interleaving of
    any number of goroutines whose actions are pairwise independent across
    goroutines ends in the memory obtained by running goroutine 1 to
    completion, then goroutine 2, and so on. -/
theorem C19_schedule_independent : ∀ (ts : List (List Act)) (l : List Act), Interleave ts l →
    AllWB ts → CrossIndep ts → ∀ m, run l m = run ts.flatten m :=
  fun _ _ hl hwb hci => schedule_independent_pairwise hl hwb hci.pairwise

/-- instance `i` owns the locations `own i`; `shared` locations are read-only -/
structure Owned (own : Nat → Loc → Prop) (shared : Loc → Prop) (i : Nat) (a : Act) : Prop where
  writes : ∀ l ∈ a.wr, own i l
  reads : ∀ l ∈ a.rd, own i l ∨ shared l

theorem Owned.writes_apart {own : Nat → Loc → Prop} {shared : Loc → Prop}
    (hdisj : ∀ i j l, i ≠ j → own i l → ¬ own j l) (hsh : ∀ i l, own i l → ¬ shared l)
    {i j : Nat} (hij : i ≠ j) {a b : Act} (ha : Owned own shared i a) (hb : Owned own shared j b) :
    ∀ l ∈ a.wr, l ∉ b.rd ∧ l ∉ b.wr := fun l hl =>
  have ho := ha.writes l hl
  ⟨fun hr => (hb.reads l hr).elim (hdisj i j l hij ho) (hsh i l ho), fun hw => hdisj i j l hij ho (hb.writes l hw)⟩

/-- **distinct instances are independent**: when no location is owned by two
    instances and owned locations are not shared ones, actions confined to
    different instances never conflict -/
theorem C19_owned_independent (own : Nat → Loc → Prop) (shared : Loc → Prop)
    (hdisj : ∀ i j l, i ≠ j → own i l → ¬ own j l) (hsh : ∀ i l, own i l → ¬ shared l)
    (i j : Nat) (hij : i ≠ j) (a b : Act) (ha : Owned own shared i a) (hb : Owned own shared j b) :
    a.indep b :=
  ⟨Owned.writes_apart hdisj hsh hij ha hb, Owned.writes_apart hdisj hsh hij.symm hb ha⟩

theorem find_access_same (r : Registry) (ty : Nat) :
    (r.access ty).1.find ty = some (r.access ty).2 := by
  unfold Registry.access
  cases h : r.find ty with
  | some c => simp [h]
  | none => simp [Registry.find]

theorem find_access_other (r : Registry) (ty ty' : Nat) (c : Nat) (h : r.find ty' = some c) :
    (r.access ty).1.find ty' = some c := by
  unfold Registry.access
  cases h2 : r.find ty with
  | some c2 => simpa using h
  | none =>
    have hne : ty ≠ ty' := by intro he; subst he; rw [h] at h2; cases h2
    simp only [Registry.find, List.find?_cons]
    have : ((ty, r.next).1 == ty') = false := by simp [hne]
    rw [this]
    exact h

theorem find_accessAll (ty c : Nat) : ∀ (tys : List Nat) (r : Registry), r.find ty = some c →
    (r.accessAll tys).1.find ty = some c
  | [], _, h => h
  | t :: tys, r, h => find_accessAll ty c tys _ (find_access_other r t ty c h)

theorem accessAll_result : ∀ (tys : List Nat) (r : Registry) (k : Nat) (hk : k < tys.length),
    (r.accessAll tys).2[k]? = (r.accessAll tys).1.find tys[k]
  | t :: tys, r, 0, _ => (find_accessAll t _ tys _ (find_access_same r t)).symm
  | t :: tys, r, k + 1, hk => accessAll_result tys (r.access t).1 k (Nat.lt_of_succ_lt_succ hk)

/-- once a type has a class, every later accessor call – by whichever goroutine,
    for whichever types, in whichever order – returns that class for it -/
theorem C19_registry_stable : ∀ (tys : List Nat) (r : Registry) (ty c : Nat), r.find ty = some c →
    ((r.accessAll tys).1.find ty = some c) ∧
    ∀ k (hk : k < tys.length), tys[k] = ty → (r.accessAll tys).2[k]? = some c :=
  fun tys r ty c h => ⟨find_accessAll ty c tys r h, fun k hk e => by
    rw [accessAll_result tys r k hk, e]; exact find_accessAll ty c tys r h⟩

/-- **one class per type**: in any sequence of accessor calls (any schedule of
    the atomic accessors), two calls for the same type return the same class -/
theorem C19_registry_one_class (tys : List Nat) (r : Registry) (i j : Nat)
    (hi : i < tys.length) (hj : j < tys.length) (hij : i ≤ j) (hsame : tys[i] = tys[j]) :
    (r.accessAll tys).2[i]? = (r.accessAll tys).2[j]? := by
  rw [accessAll_result tys r i hi, accessAll_result tys r j hj, hsame]

/-- non-vacuity: a counter; two of them at different locations are independent (the example below) -/
def incr (l : Loc) : Act := { rd := [l], wr := [l], eff := fun m x => if x = l then m l + 1 else m x }

theorem incr_wb (l : Loc) : (incr l).WB :=
  ⟨fun m x hx => by simp [incr] at hx ⊢; intro h; exact absurd h hx,
   fun m m' h x hx => by
     simp [incr] at hx ⊢; subst hx
     have := h x (Or.inl (by simp [incr]))
     simp [this]⟩

example : (incr 0).indep (incr 1) := by simp [Act.indep, incr]

example : ((Registry.accessAll { classes := [], next := 1 } [7, 8, 7, 7, 8]).2) = [1, 2, 1, 1, 2] := by decide

end CM
