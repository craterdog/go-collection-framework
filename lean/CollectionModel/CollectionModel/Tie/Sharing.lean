/-
  C19 obligation over the sharing table regenerated from the Go source
  (Generated/Sharing.lean): nothing that several instances or goroutines can
  reach is written through the methods invoked on it, unless every access sits
  inside one mutex section.  This is the hypothesis `hsh`/`hdisj` of
  `C19_owned_independent` read off the code: instance methods write only what
  their own instance owns; what is shared is read-only or locked.
-/
import CollectionModel.Generated.Sharing
namespace CM
namespace Tie

def rowSafe (r : String × String × String × Bool × Bool) : Bool := !r.2.2.2.1 || r.2.2.2.2

/-- **no shared mutable state**: every row of the table is write-free or guarded -/
theorem sharing_safe : Generated.sharing.all rowSafe = true := by decide

/-- the class registries are the only shared objects that are written, and each is guarded -/
theorem registries_guarded :
    (Generated.sharing.filter (fun r => r.2.2.2.1)).all (fun r => r.2.1 == "map" && r.2.2.2.2) = true := by decide

/-- the table is not empty: it lists the registries, the class notation, the default ranker
    and the operand's collator (a vacuous table would prove nothing) -/
theorem sharing_covers :
    (Generated.sharing.any (fun r => r.1 == "class-held NotationLike")) = true ∧
    (Generated.sharing.any (fun r => r.1 == "class field sorterClass_.defaultRanker_")) = true ∧
    (Generated.sharing.any (fun r => r.1 == "operand's CollatorLike handed to a new instance")) = true ∧
    (Generated.sharing.filter (fun r => r.2.1 == "map" && r.2.2.2.1)).length = 11 := by
  -- `+kernel`: comparing the names row by row is evaluated once, by the kernel, and not by the elaborator before it
  decide +kernel

end Tie
end CM
