/-
  C12, continued — **ParseSource is total** on the parser model: for every source string,
  every literal-conversion oracle and every push-back stack of capacity ≥ 4, the parser
  returns a value or raises the located syntax diagnostic.  It never dereferences a missing
  token, never indexes a source line out of range, never overflows its push-back stack,
  never reads past the end of the token stream, and never runs out of the model's fuel
  (i.e. it terminates).
-/
import CollectionModel.Lemmas.ParseTotal
import CollectionModel.Props.C12
namespace CM
open CM.Cdcn

theorem foldl_orElse_some {α β : Type} (f : α → Option β) (b : β) : ∀ (l : List α) (acc : Option β),
    l.foldl (fun acc a => acc.orElse fun _ => f a) acc = some b → acc = some b ∨ ∃ a ∈ l, f a = some b
  | [], _, h => .inl h
  | a :: l, acc, h => by
    rcases foldl_orElse_some f b l _ h with h | ⟨x, hx, hf⟩
    · cases acc with
      | some c => exact .inl h
      | none => exact .inr ⟨a, by simp, h⟩
    · exact .inr ⟨x, by simp [hx], hf⟩

/-- a type token is one of the seven context names: `mType` is the only pattern of that kind -/
theorem matchToken_type (src : Src) (n : Nat) (h : matchToken src = some (.type, n)) : src.take n ∈ ctxNames ∧ n ≠ 0 := by
  obtain ⟨m, hm, hmn⟩ := firstMatch_mem matchers src .type n h
  have hm' : (TT.type, m) ∈ matchers.filter (·.1 == .type) := List.mem_filter.mpr ⟨hm, rfl⟩
  rw [show matchers.filter (·.1 == .type) = [(.type, mType)] from rfl, List.mem_singleton] at hm'
  obtain rfl : m = mType := (Prod.mk.inj hm').2
  rcases foldl_orElse_some (fun name => lit name src) n _ none hmn with h | ⟨name, hmem, hlit⟩
  · cases h
  obtain ⟨h1, h2⟩ := lit_some hlit
  -- comparing the names with `""` is a third of the cost of computing their lengths
  have hne : ∀ name ∈ ["Array", "Catalog", "List", "Map", "Queue", "Set", "Stack"], name ≠ "" := by decide
  exact ⟨h2 ▸ List.mem_map.mpr ⟨name, hmem, rfl⟩,
    h1 ▸ fun h0 => hne name hmem (String.length_eq_zero_iff.mp (by simpa [str] using h0))⟩

theorem scanLoop_types : ∀ (fuel : Nat) (src : Src) (lc : Nat × Nat) (t : Token),
    t ∈ scanLoop fuel src lc → t.tt = .type → t.value ∈ ctxNames := by
  intro fuel src lc t h ht
  obtain ⟨pre, rest, _, _, h3⟩ := scanLoop_mem fuel src lc t h
  rcases h3 with h | h | ⟨n, hm, hv⟩
  · rw [h] at ht; cases ht
  · rw [h] at ht; cases ht
  · rw [ht] at hm
    obtain ⟨h1, h2⟩ := matchToken_type _ n hm
    have : (n == 0) = false := by simpa using h2
    rw [hv]; simpa [this] using h1

theorem wf_initial (env : Env) (src : Src) (hn : env.nlines = (src.filter (· == 10)).length + 1) :
    WF env { rest := scan src, stack := [] } := by
  obtain ⟨ts, eof, h1, h2, h3, _⟩ := C12_scan_shape (src.length + 1) src (1, 1)
  refine ⟨?_, ?_, by simp, ?_, by simp⟩
  · intro t ht
    simp only [stream, List.nil_append] at ht
    rw [hn]; exact C12_token_line_in_range src t ht
  · refine ⟨ts, eof, by simp [stream, scan, h1], by simpa [isEof] using h2, ?_⟩
    intro t ht
    have := h3 t ht
    simpa [isEof] using this
  · intro t ht htt
    simp only [stream, List.nil_append] at ht
    exact scanLoop_types _ _ _ t ht htt

/-- **C12: ParseSource is total**, for every source string, every conversion oracle and every
    push-back capacity ≥ 4 (the real one is `Generated.parserStackSize`, see `Tie.parser_sizes`) -/
theorem C12_parse_total (src : Src) (stackSize : Nat) (hcap : 3 < stackSize) (conv : Token → Option Val)
    (mkSet : List Val → Option Val) (hset : ∀ items, (mkSet items).isSome) :
    (parseTokens { stackSize := stackSize, nlines := (src.filter (· == 10)).length + 1, conv := conv, mkSet := mkSet }
      (8 * (scan src).length + 16) (scan src)).acceptable = true :=
  (parseTokens_sim _ hcap (scan src) (wf_initial _ src rfl)).casesOn (fun _ _ => rfl) (fun _ => rfl) (fun h => absurd hset h)

/-- the statement of `Props/C12.lean` -/
theorem C12_parse_total_statement_holds : C12_parse_total_statement := by
  intro src conv mkSet hset
  exact C12_parse_total src 4 (by decide) conv mkSet hset

/-- the push-back stack never needs more than three slots: capacity 4 is never reached -/
theorem C12_pushback_bounded (env : Env) (s : PS) (h : WF env s) : s.stack.length ≤ 3 := h.stk

end CM
