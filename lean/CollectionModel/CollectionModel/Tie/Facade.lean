/-
  C20 obligation: the case order of the constructor-selecting switch of every
  universal constructor in Module.go (Generated/Facade.lean, regenerated on
  every run) is the order that `Model/Facade.lean` implements
  (`buildArray` … `buildMap`), and the argument type switches have the case
  heads the model's `Arg` constructors stand for.
-/
import CollectionModel.Generated.Facade
namespace CM
namespace Tie

def expectedFinalSwitch : List (String × List String) := [
  ("Array", ["hasSize", "values != nil", "sequence != nil", "len(source) > 0", "default"]),
  ("Catalog", ["len(associations) > 0", "len(mappings) > 0", "sequence != nil", "len(source) > 0", "default"]),
  ("List", ["len(values) > 0", "sequence != nil", "len(source) > 0", "default"]),
  ("Map", ["len(associations) > 0", "len(mappings) > 0", "sequence != nil", "len(source) > 0", "default"]),
  ("Queue", ["capacity > 0", "len(values) > 0", "sequence != nil", "len(source) > 0", "default"]),
  ("Set", ["collator != nil", "collator != nil / len(values) > 0", "collator != nil / sequence != nil",
           "collator != nil / len(source) > 0", "len(values) > 0", "sequence != nil", "len(source) > 0", "default"]),
  ("Stack", ["capacity > 0", "len(values) > 0", "sequence != nil", "len(source) > 0", "default"])]

def expectedTypeSwitch : List (String × List String) := [
  ("Array", ["int", "uint", "[]V", "string", "default"]),
  ("Catalog", ["[]col.AssociationLike[K, V]", "map[K]V", "string", "default"]),
  ("List", ["[]V", "string", "default"]),
  ("Map", ["[]col.AssociationLike[K, V]", "map[K]V", "string", "default"]),
  ("Queue", ["int", "uint", "[]V", "string", "default"]),
  ("Set", ["[]V", "string", "age.CollatorLike[V]", "default"]),
  ("Stack", ["int", "uint", "[]V", "string", "default"])]

theorem final_switch_tie : Generated.finalSwitch = expectedFinalSwitch := rfl
theorem type_switch_tie : Generated.typeSwitch = expectedTypeSwitch := rfl

end Tie
end CM
