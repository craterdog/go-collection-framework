/-
  C02 — Set stays strictly ordered, duplicate-free and equal to the mathematical set.
-/
import CollectionModel.Model.SetOps
import CollectionModel.Lemmas.SetLemmas
import CollectionModel.Props.C01
namespace CM
open CM.Seq CM.SetM

variable {α : Type}

theorem strictAsc_iff (rank : α → α → Rank) (l : List α) : strictAsc rank l = true ↔ SSorted rank l := by
  induction l with
  | nil => simp [strictAsc, SSorted]
  | cons a rest ih =>
    simp only [strictAsc, SSorted, Bool.and_eq_true, List.all_eq_true, beq_iff_eq, List.pairwise_cons]
    rw [ih]; rfl

variable [Inhabited α] [DecidableEq α]

theorem member_eq_mem (rank : α → α → Rank) (l : List α) (v : α) : member rank l v = mem rank l v := rfl

/-- operations of the Set interface itself (the class functions And/Or/Sans/Xor are C15) -/
def SetM.Op.basic : SetM.Op α → Bool
  | .setAnd _ _ | .setOr _ _ | .setSans _ _ | .setXor _ _ => false
  | _ => true

/-- **binary search specification**: on a strictly ascending set `findIndex` returns
    `(k, true)` with `GetValue(k)` rank-equal to the probe exactly when such a member exists,
    and otherwise `(slot, false)` with `slot ≤ size`, everything before the slot below the
    probe and everything from the slot on above it. -/
theorem C02_findIndex (rank : α → α → Rank) (h : TotalPreorder rank) (l : List α) (v : α)
    (hs : SSorted rank l) :
    ∃ k, findIndex rank l v = some (.ok (k, mem rank l v)) ∧
      (mem rank l v = true → 1 ≤ k ∧ k ≤ l.length ∧ rank v (l.getD (k-1) default) = .eq) ∧
      (mem rank l v = false → k ≤ l.length ∧ (∀ x ∈ l.take k, rank v x = .gt) ∧ (∀ x ∈ l.drop k, rank v x = .lt)) :=
  findIndex_found rank h l v hs

omit [Inhabited α] in
theorem retWhere_obsR {s r : List α} {f : R (List α)} {p : List α → Bool} (hf : f = some (.ok r))
    (hp : p r = true) : retWhere (obsR s f) .unit p = true := by
  subst hf; simpa [obsR, retWhere]

/-- **one step**: every call on a strictly ascending set is what the abstract ordered,
    duplicate-free set allows (members = added-and-not-removed classes, one stored value per
    class, Contains*/GetIndex/GetValue agree with the order). -/
theorem C02_step_refines (rank : α → α → Rank) (h : TotalPreorder rank) (s : List α)
    (hs : SSorted rank s) (op : SetM.Op α) (hb : op.basic = true) :
    SetM.allowed rank s op (SetM.step rank s op) = true := by
  have hasc := (strictAsc_iff rank s).mpr hs
  have retE {f r} (hf : f = some (.ok r)) : SeqSpec.isRet (obsR s f) r .unit = true := by
    subst hf; exact SeqSpec.isRet_ret rfl rfl
  have retB {f b} (hf : f = some (.ok b)) : SeqSpec.isRet (obsB s f) s (.bool b) = true := by
    subst hf; exact SeqSpec.isRet_ret rfl rfl
  cases op
  case setAnd | setOr | setSans | setXor => cases hb
  case addValue v =>
    dsimp only [SetM.allowed, SetM.allowed2]
    by_cases hm : member rank s v = true
    · rw [if_pos hm]
      exact retE ((addValue_eq rank h s v hs).trans (by rw [ins_of_mem h hs hm]))
    · rw [if_neg hm]
      exact retWhere_obsR (addValue_eq rank h s v hs) (Bool.and_eq_true_iff.mpr
        ⟨(strictAsc_iff rank _).mpr (ins_sorted h v hs),
          List.isPerm_iff.mpr (ins_perm (Bool.not_eq_true _ ▸ hm))⟩)
  case addValues vs =>
    have sp := insAll_spec h vs s hs
    refine retWhere_obsR (addValues_eq rank h vs s hs) ?_
    simp only [member_eq_mem, Bool.and_eq_true, List.all_eq_true, Bool.or_eq_true, List.contains_iff_mem]
    exact ⟨⟨⟨(strictAsc_iff rank _).mpr sp.sorted, sp.sub⟩, sp.keeps⟩, sp.covers⟩
  case make vs =>
    have sp := insAll_spec h vs [] (ssorted_nil rank)
    refine retWhere_obsR (addValues_eq rank h vs [] (ssorted_nil rank)) ?_
    simp only [member_eq_mem, Bool.and_eq_true, List.all_eq_true, List.contains_iff_mem]
    exact ⟨⟨(strictAsc_iff rank _).mpr sp.sorted, sp.sub_nil⟩, sp.covers⟩
  case getIndex v =>
    obtain ⟨k, hk, ht, hf⟩ := SetM.getIndex_spec rank h s v hs
    -- the spec wants a member reported at an ordinal `k ≥ 1` holding a rank-equal value
    dsimp only [SetM.allowed, SetM.allowed2, SetM.step, SetM.step2]
    rw [hk]
    dsimp only
    rw [beq_self_eq_true, Bool.true_and, member_eq_mem]
    cases hm : mem rank s v with
    | false => rw [hf hm]; rfl
    | true =>
      obtain ⟨a1, a2, a3⟩ := ht hm
      have hlt : k - 1 < s.length := Nat.lt_of_lt_of_le (Nat.sub_one_lt_of_lt a1) a2
      rw [← List.getElem_eq_getD (h := hlt)] at a3
      rw [if_pos rfl, List.getElem?_eq_getElem hlt]
      dsimp only
      rw [a3, decide_eq_true a1]; rfl
  -- delegated to the list, whose step ignores the equality it is given for these two calls
  case getValue i => exact C01_step_refines (fun a b => a == b) rank h s (.getValue i) trivial
  case getValues f l => exact C01_step_refines (fun a b => a == b) rank h s (.getValues f l) trivial
  case removeValue v => exact retE (SetM.removeValue_eq rank h s v hs)
  case removeValues vs => exact retE (SetM.removeValues_eq rank h vs s hs)
  case containsValue v => exact retB (containsValue_eq rank h s v hs)
  case containsAny vs => exact retB (containsAny_eq rank h s hs vs)
  case containsAll vs => exact retB (containsAll_eq rank h s hs vs)
  -- what is left answers from the state as the spec does
  case asArray | iterate => exact Bool.and_eq_true_iff.mpr ⟨SeqSpec.isRet_ret rfl rfl, hasc⟩
  case removeAll => exact SeqSpec.isRet_ret (s := []) rfl rfl
  case getSize | isEmpty => exact SeqSpec.isRet_ret rfl rfl

def SetM.stateAfter (o : SetM.Obs α) (s : List α) : List α :=
  match o with
  | .ret s' _ => s'
  | .panic s' _ => s'
  | .hang => s

/-- **the order invariant is preserved by every call** -/
theorem C02_step_sorted (rank : α → α → Rank) (h : TotalPreorder rank) (s : List α)
    (hs : SSorted rank s) (op : SetM.Op α) (hb : op.basic = true) :
    SSorted rank (SetM.stateAfter (SetM.step rank s op) s) := by
  have hnil := ssorted_nil rank
  -- a mutator returns the closed form of its operation, an observer leaves `s` whatever it answers
  have ret {f r} (hf : f = some (.ok r)) (hr : SSorted rank r) :
      SSorted rank (SetM.stateAfter (obsR s f) s) := by subst hf; exact hr
  have obs (r : R Bool) : SetM.stateAfter (obsB s r) s = s := by rcases r with _ | _ | _ <;> rfl
  cases op
  case setAnd | setOr | setSans | setXor => cases hb
  case addValue v => exact ret (addValue_eq rank h s v hs) (ins_sorted h v hs)
  case addValues vs => exact ret (addValues_eq rank h vs s hs) (insAll_spec h vs s hs).sorted
  case make vs => exact ret (addValues_eq rank h vs [] hnil) (insAll_spec h vs [] hnil).sorted
  case removeValue v => exact ret (removeValue_eq rank h s v hs) (ssorted_filter s _ hs)
  case removeValues vs => exact ret (removeValues_eq rank h vs s hs) (ssorted_filter s _ hs)
  case removeAll => exact hnil
  case containsValue | containsAny | containsAll => exact (obs _).symm ▸ hs
  case getIndex v =>
    dsimp only [SetM.step, SetM.step2]; rcases getIndex rank s v with _ | _ | _ <;> exact hs
  case getValue i =>
    dsimp only [SetM.step, SetM.step2, Seq.step]; cases Seq.getValue s i <;> exact hs
  case getValues f l =>
    dsimp only [SetM.step, SetM.step2, Seq.step]; cases Seq.getValues s f l <;> exact hs
  all_goals exact hs

def SetM.run (rank : α → α → Rank) : List α → List (SetM.Op α) → List α
  | s, [] => s
  | s, op :: ops => SetM.run rank (SetM.stateAfter (SetM.step rank s op) s) ops

/-- **after any finite history the set is strictly ascending** (hence duplicate-free),
    for the default collator or any caller-supplied total preorder -/
theorem C02_history_sorted (rank : α → α → Rank) (h : TotalPreorder rank) :
    ∀ (ops : List (SetM.Op α)) (s : List α), SSorted rank s → (∀ op ∈ ops, op.basic = true) →
      SSorted rank (SetM.run rank s ops) := by
  intro ops
  induction ops with
  | nil => exact fun _ hs _ => hs
  | cons op ops ih =>
    exact fun s hs hb => ih _ (C02_step_sorted rank h s hs op (hb op List.mem_cons_self))
      fun o ho => hb o (List.mem_cons_of_mem op ho)

/-- **membership after AddValue**: exactly the old members plus the class of `v` -/
theorem C02_add_members (rank : α → α → Rank) (h : TotalPreorder rank) (s : List α) (v x : α)
    (hs : SSorted rank s) :
    ∃ s', addValue rank s v = some (.ok s') ∧
      (mem rank s' x = true ↔ (mem rank s x = true ∨ rank x v = .eq)) :=
  ⟨_, addValue_eq rank h s v hs, by simp [mem_ins h]⟩

/-- **membership after RemoveValue**: exactly the old members outside the class of `v` -/
theorem C02_remove_members (rank : α → α → Rank) (h : TotalPreorder rank) (s : List α) (v x : α)
    (hs : SSorted rank s) :
    ∃ s', removeValue rank s v = some (.ok s') ∧
      (mem rank s' x = true ↔ (mem rank s x = true ∧ rank x v ≠ .eq)) := by
  refine ⟨_, removeValue_eq rank h s v hs, ?_⟩
  rw [mem_filter _ x (fun y e => by rw [h.congr_right e]), h.mirror x v]
  cases rank x v <;> simp [Rank.flip]

/-- the binary search never probes outside the list and never inserts beyond the end:
    from a Set the out-of-range zone of `List.InsertValue` is unreachable -/
theorem C02_slot_in_range (rank : α → α → Rank) (h : TotalPreorder rank) (l : List α) (v : α)
    (hs : SSorted rank l) : ∃ k b, findIndex rank l v = some (.ok (k, b)) ∧ k ≤ l.length := by
  obtain ⟨k, b, hf, ht, hn⟩ := findIndex_spec rank h l v hs
  refine ⟨k, b, hf, ?_⟩
  cases b with
  | true => exact (ht rfl).2.1
  | false => exact (hn rfl).1

/-- non-vacuity: integers under natural, reversed and coarse collators are total preorders -/
example : TotalPreorder rankInt := rankInt_total
example : SSorted rankInt [1, 4, 9] := by unfold SSorted; decide

end CM
