/-
  Lexical lemmas for the round trip (C10): how the scanner model reads the pieces of text
  the formatter model writes — delimiters, the type names, a newline with its indentation,
  the single space after a colon — independently of what follows them.
-/
import CollectionModel.Model.Cdcn.Sentence
import CollectionModel.Lemmas.ScanHeads
namespace CM
namespace Cdcn

def scanFrom (src : Src) (lc : Nat × Nat) : List Token := scanLoop (src.length + 1) src lc

theorem scan_eq_scanFrom (src : Src) : scan src = scanFrom src (1, 1) := rfl

/-- more fuel than runes never changes the result: every turn takes at least one rune -/
theorem scanLoop_fuel (f g : Nat) (src : Src) (lc : Nat × Nat) (hf : src.length < f) (hg : src.length < g) :
    scanLoop f src lc = scanLoop g src lc := by
  induction f generalizing g src lc with
  | zero => exact absurd hf (Nat.not_lt_zero _)
  | succ f ih =>
    obtain _ | g := g
    · exact absurd hg (Nat.not_lt_zero _)
    cases src with
    | nil => rfl
    | cons c cs =>
      obtain ⟨_, e⟩ | ⟨tt, n, k, _, _, hlen, e⟩ := scanLoop_succ c cs lc
      · rw [e, e]
      · have shorter {m : Nat} (h : (c :: cs).length < m + 1) : ((c :: cs).drop k).length < m :=
          Nat.lt_of_le_of_lt hlen (Nat.lt_of_succ_lt_succ h)
        rw [e, e, ih g _ _ (shorter hf) (shorter hg)]

theorem scanFrom_nil (lc : Nat × Nat) : scanFrom [] lc = [{ tt := .eof, value := [], line := lc.1, pos := lc.2 }] := rfl

/-- `scanLoop_succ` without the fuel, for a match that is not empty -/
theorem scanFrom_cons (c : Nat) (cs : Src) (lc : Nat × Nat) (tt : TT) (n : Nat)
    (hm : matchToken (c :: cs) = some (tt, n)) (hn : 0 < n) :
    scanFrom (c :: cs) lc =
      (if tt = .space then [] else [{ tt := tt, value := (c :: cs).take n, line := lc.1, pos := lc.2 }]) ++
        scanFrom ((c :: cs).drop n) (advance lc ((c :: cs).take n)) := by
  obtain ⟨h, _⟩ | ⟨tt', n', k, hm', hk, hlen, e⟩ := scanLoop_succ c cs lc
  · rw [hm] at h; cases h
  · obtain ⟨rfl, rfl⟩ : tt = tt' ∧ n = n' := by rw [hm] at hm'; cases hm'; exact ⟨rfl, rfl⟩
    rw [if_neg (fun h => Nat.ne_of_gt hn (beq_iff_eq.mp h))] at hk
    subst hk
    exact (e _).trans (congrArg _ (scanLoop_fuel _ _ _ _ (Nat.lt_succ_of_le hlen) (Nat.lt_succ_self _)))

theorem scanFrom_token (c : Nat) (cs : Src) (lc : Nat × Nat) (tt : TT) (n : Nat)
    (hm : matchToken (c :: cs) = some (tt, n)) (hn : 0 < n) (htt : tt ≠ .space) :
    scanFrom (c :: cs) lc =
      { tt := tt, value := (c :: cs).take n, line := lc.1, pos := lc.2 } ::
        scanFrom ((c :: cs).drop n) (advance lc ((c :: cs).take n)) := by
  rw [scanFrom_cons c cs lc tt n hm hn, if_neg htt]; rfl

theorem scanFrom_lexeme {t : Src} (R : Src) (lc : Nat × Nat) {tt : TT} (ht : t ≠ [])
    (hm : matchToken (t ++ R) = some (tt, t.length)) (htt : tt ≠ .space) :
    scanFrom (t ++ R) lc = { tt := tt, value := t, line := lc.1, pos := lc.2 } :: scanFrom R (advance lc t) := by
  obtain ⟨c, r, rfl⟩ := List.exists_cons_of_ne_nil ht
  have := scanFrom_token c (r ++ R) lc tt _ hm (by simp) htt
  rwa [← List.cons_append, List.take_left, List.drop_left] at this

theorem match_eol (rest : Src) : matchToken (10 :: rest) = some (.eol, 1) := (matchToken_one _ _ rfl).trans rfl

theorem match_space (rest : Src) : matchToken (32 :: rest) = some (.space, 1 + spanLen (· == 32) rest) :=
  (matchToken_one _ _ rfl).trans (by simp [mSpace, spanLen])

/-- the brackets, the closing parenthesis and the colon begin no other pattern -/
theorem match_delim (c : Nat) (h : c ∈ [ch '[', ch ']', ch ')', ch ':']) (rest : Src) :
    matchToken (c :: rest) = some (.delimiter, 1) := by
  simp only [List.mem_cons, List.mem_nil_iff, or_false] at h
  rcases h with rfl | rfl | rfl | rfl <;> exact (matchToken_one _ _ rfl).trans rfl

/-- an opening parenthesis is a delimiter unless a float follows (the start of a complex number) -/
theorem match_lparen (c : Nat) (rest : Src) (h : heads .float c = false) : matchToken (ch '(' :: c :: rest) = some (.delimiter, 1) := by
  rw [matchToken_cons]
  show firstMatch [(.complex, mComplex), (.delimiter, mDelimiter)] _ = _
  simp only [firstMatch, mComplex, mFloat_head h]; rfl

/-- a context name begins with a capital letter, so the parenthesis before it is not the start of a complex number -/
theorem match_context (v : Val) (rest : Src) (h : ctxName v ≠ []) :
    matchToken (ch '(' :: (ctxName v ++ rest)) = some (.delimiter, 1) ∧
      matchToken (ctxName v ++ rest) = some (.type, (ctxName v).length) := by
  cases v with
  | coll k _ =>
    cases k <;> simp only [ctxName, ctx_strs] <;>
      exact ⟨match_lparen _ _ rfl, (matchToken_one _ _ rfl).trans (by rw [mType_eq]; rfl)⟩
  | arr | gomap =>
    simp only [ctxName, ctx_strs]
    exact ⟨match_lparen _ _ rfl, (matchToken_one _ _ rfl).trans (by rw [mType_eq]; rfl)⟩
  | _ => exact absurd rfl h

/-- the text does not start with a space -/
def NoSp (s : Src) : Prop := ∀ r, s ≠ 32 :: r

theorem nosp_rbracket (R : Src) : NoSp (ch ']' :: R) := by
  intro r h; cases h

/-- `NoSp` in the form in which `spanLen_all` asks it of what follows a span -/
theorem NoSp.head {s : Src} (h : NoSp s) : ∀ c, s.head? = some c → (c == 32) = false := by
  intro c hc
  cases s with
  | nil => cases hc
  | cons x r => cases hc; exact beq_eq_false_iff_ne.mpr fun e => h r (by rw [e])

theorem spanLen_replicate (n : Nat) (next : Src) (h : NoSp next) : spanLen (· == 32) (List.replicate n 32 ++ next) = n := by
  have := spanLen_all (· == 32) (List.replicate n 32) next (fun c hc => by rw [(List.mem_replicate.mp hc).2]; rfl) h.head
  rwa [List.length_replicate] at this

theorem scan_spaces (n : Nat) (next : Src) (lc : Nat × Nat) (h : NoSp next) :
    ∃ lc', scanFrom (List.replicate n 32 ++ next) lc = scanFrom next lc' := by
  cases n with
  | zero => exact ⟨lc, rfl⟩
  | succ n =>
    have hm : matchToken (32 :: (List.replicate n 32 ++ next)) = some (.space, n + 1) := by
      rw [match_space, spanLen_replicate n next h, Nat.add_comm]
    have hd : (32 :: (List.replicate n 32 ++ next)).drop (n + 1) = next := by simp
    exact ⟨_, by rw [List.replicate_succ, List.cons_append, scanFrom_cons _ _ lc _ _ hm (Nat.succ_pos n), hd]; rfl⟩

/-- `appendNewline`: one EOL token, the indentation disappears -/
theorem scan_newline (d : Nat) (next : Src) (lc : Nat × Nat) (h : NoSp next) :
    ∃ e lc', isEol e = true ∧ scanFrom (newline d ++ next) lc = e :: scanFrom next lc' := by
  obtain ⟨lc', h'⟩ := scan_spaces (4 * d) next (advance lc [10]) h
  refine ⟨{ tt := .eol, value := [10], line := lc.1, pos := lc.2 }, lc', rfl, ?_⟩
  unfold newline
  rw [List.cons_append, scanFrom_token 10 _ lc .eol 1 (match_eol _) Nat.one_pos (by decide)]
  exact congrArg (_ :: ·) h'

theorem scan_delim (s : String) (c : Nat) (hs : s.toList.map ch = [c]) (R : Src) (lc : Nat × Nat)
    (hm : matchToken (c :: R) = some (.delimiter, 1)) :
    ∃ tok lc', isDelim tok s = true ∧ scanFrom (c :: R) lc = tok :: scanFrom R lc' :=
  ⟨{ tt := .delimiter, value := [c], line := lc.1, pos := lc.2 }, advance lc [c], by simp [isDelim, hs],
    by rw [scanFrom_token _ _ lc _ 1 hm Nat.one_pos (by decide)]; rfl⟩

theorem scan_lbracket (R : Src) (lc : Nat × Nat) :
    ∃ tok lc', isDelim tok "[" = true ∧ scanFrom (ch '[' :: R) lc = tok :: scanFrom R lc' :=
  scan_delim "[" (ch '[') rfl R lc (match_delim _ (by decide) R)

theorem scan_colon (R : Src) (lc : Nat × Nat) :
    ∃ tok lc', isDelim tok ":" = true ∧ scanFrom (ch ':' :: R) lc = tok :: scanFrom R lc' :=
  scan_delim ":" (ch ':') rfl R lc (match_delim _ (by decide) R)

theorem scan_context (v : Val) (h : ctxName v ≠ []) (R : Src) (lc : Nat × Nat) :
    ∃ rb lp ty rp lc', isDelim rb "]" = true ∧ isDelim lp "(" = true ∧ ty.tt = .type ∧ ty.value = ctxName v ∧ isDelim rp ")" = true ∧
      scanFrom (ch ']' :: ch '(' :: (ctxName v ++ ch ')' :: R)) lc = rb :: lp :: ty :: rp :: scanFrom R lc' := by
  obtain ⟨hpar, hm⟩ := match_context v (ch ')' :: R) h
  obtain ⟨rb, lc1, hrb, e1⟩ := scan_delim "]" (ch ']') rfl (ch '(' :: (ctxName v ++ ch ')' :: R)) lc (match_delim _ (by decide) _)
  obtain ⟨lp, lc2, hlp, e2⟩ := scan_delim "(" (ch '(') rfl (ctxName v ++ ch ')' :: R) lc1 hpar
  obtain ⟨rp, lc4, hrp, e4⟩ := scan_delim ")" (ch ')') rfl R (advance lc2 (ctxName v)) (match_delim _ (by decide) R)
  refine ⟨rb, lp, { tt := .type, value := ctxName v, line := lc2.1, pos := lc2.2 }, rp, lc4, hrb, hlp, rfl, rfl, hrp, ?_⟩
  rw [e1, e2, scanFrom_lexeme _ lc2 h hm (by decide), e4]

end Cdcn
end CM
