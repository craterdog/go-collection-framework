/-
  T3L obligations for C13: the guards of `stack_.AddValue` / `stack_.RemoveTop` and the
  capacity logic of the four constructors, TRANSLATED from the current text of stack.go
  (Generated/LoopsStack.lean; `uint` arithmetic modulo 2^64), are the model's
  `Stack.addValue`, `Stack.removeTop`, `Stack.step … (.make | .makeWithCapacity c)` and
  `Stack.makeFrom`, for every capacity and size below 2^64.  The list underneath is the Seq
  model in both (its own tie is C01's).
-/
import CollectionModel.Generated.LoopsStack
import CollectionModel.Model.Stack
namespace CM
namespace Tie
open CM.GoSem

/-- how a model outcome is read as the translated function's result -/
def stackRes {α β : Type} (f : Stack.St α → Seq.Res α → β) : Stack.Obs α → Option (Except Panic β)
  | .ret s r => some (.ok (f s r))
  | .panic _ p => some (.error p)
  | .hang => none

variable {α : Type} [Inhabited α]

theorem stackAddValue_tie (s : Stack.St α) (v : α) (hc : IsUint64 s.cap) (hn : IsUint64 s.vals.length) :
    Generated.stackAddValue (s.cap : Int) v s.vals 0 = stackRes (fun s' _ => s'.vals) (Stack.addValue s v) := by
  unfold Generated.stackAddValue Stack.addValue
  rw [u64_id hn, Int.toNat_zero]
  by_cases h : s.vals.length = s.cap
  · rw [if_pos (beq_iff_eq.mpr (congrArg Nat.cast h)), if_pos h]; rfl
  · rw [if_neg fun hb => h (Int.natCast_inj.mp (beq_iff_eq.mp hb)), if_neg h]
    cases Seq.insertValue s.vals 0 v <;> rfl

theorem stackRemoveTop_tie (s : Stack.St α) :
    Generated.stackRemoveTop (s.cap : Int) s.vals 0
      = stackRes (fun s' r => ((match r with | .val x => x | _ => default), s'.vals)) (Stack.removeTop s) := by
  unfold Generated.stackRemoveTop Stack.removeTop
  by_cases h : s.vals.length = 0
  · rw [if_pos (beq_iff_eq.mpr h), if_pos h]; rfl
  · rw [if_neg fun hb => h (beq_iff_eq.mp hb), if_neg h]
    cases Seq.removeValue s.vals 1 <;> rfl

theorem stackMake_tie (dflt : Nat) (s : Stack.St α) :
    Generated.stackMake (α := α) (dflt : Int) 0
      = stackRes (fun s' _ => ((s'.cap : Int), s'.vals)) (Stack.step dflt s .make) := rfl

theorem stackMakeWithCapacity_tie (dflt c : Nat) (s : Stack.St α) :
    Generated.stackMakeWithCapacity (α := α) (dflt : Int) (c : Int) 0
      = stackRes (fun s' _ => ((s'.cap : Int), s'.vals)) (Stack.step dflt s (.makeWithCapacity c)) := by
  show (if decide ((c : Int) < 1) then _ else _) = stackRes _ (if c < 1 then _ else _)
  by_cases h : c < 1
  · rw [if_pos (decide_eq_true (show (c : Int) < 1 from Int.ofNat_lt.mpr h)), if_pos h]; rfl
  · rw [if_neg fun hd : decide ((c : Int) < 1) = true => h (Int.ofNat_lt.mp (of_decide_eq_true hd)), if_neg h]; rfl

theorem stackMakeFromArray_tie (dflt : Nat) (vs : List α) (hn : IsUint64 (Seq.makeFromSequence vs).length) :
    Generated.stackMakeFromArray (dflt : Int) vs 0
      = some (.ok (((Stack.makeFrom dflt vs).cap : Int), (Stack.makeFrom dflt vs).vals)) := by
  simp only [Generated.stackMakeFromArray, Stack.makeFrom, u64_id hn]
  by_cases h : (Seq.makeFromSequence vs).length > dflt
  · rw [if_pos h, if_pos (decide_eq_true (Int.ofNat_lt.mpr h))]
  · rw [if_neg h, if_neg fun hd => h (Int.ofNat_lt.mp (of_decide_eq_true hd))]

theorem stackMakeFromSequence_tie (dflt : Nat) (vs : List α) (hn : IsUint64 (Seq.makeFromSequence vs).length) :
    Generated.stackMakeFromSequence (dflt : Int) vs 0
      = some (.ok (((Stack.makeFrom dflt vs).cap : Int), (Stack.makeFrom dflt vs).vals)) :=
  -- the two constructors are translated to the same text
  stackMakeFromArray_tie dflt vs hn

/-- non-vacuity: a full stack of capacity 2 rejects, one with room accepts -/
example : Generated.stackAddValue (2 : Int) (7 : Int) [1, 2] 0 = some (.error .stackFull) := by rfl
example : Generated.stackAddValue (2 : Int) (7 : Int) [1] 0 = some (.ok [7, 1]) := by rfl

end Tie
end CM
