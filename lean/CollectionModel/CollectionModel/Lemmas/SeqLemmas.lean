/- The index normalisations agree (`index_cases`), and each loop of list.go equals its take/drop
   description (one closed form per operation, `*_eq` / `*_spec`).  At the end, for the refinement
   proofs: an observation the spec names is one it accepts (`isRet_ret`, `isPanic_panic`, `isRetWhere_ret`). -/
import CollectionModel.Spec.SeqSpec
namespace CM
namespace Seq
open SeqSpec

variable {α : Type}

/-- `toZeroBased`, `toNormalized` and the spec's `pos` are one function: they refuse the same
    ordinals, and accept the others as position `p` = ordinal `p + 1` -/
theorem index_cases (n : Nat) (i : Int) :
    (∃ c, toZeroBased n i = .error c ∧ toNormalized n i = .error c ∧ pos n i = none) ∨
    (∃ p, p < n ∧ toZeroBased n i = .ok p ∧ toNormalized n i = .ok ((p : Int) + 1) ∧
      pos n i = some p) := by
  by_cases front : 1 ≤ i ∧ i ≤ n
  · obtain ⟨h0, h1, h2, h3⟩ : n ≠ 0 ∧ i ≠ 0 ∧ ¬ (i < -(n : Int) ∨ i > n) ∧ ¬ i < 0 := by omega
    have hp : 0 ≤ i - 1 := Int.sub_nonneg_of_le front.1
    exact .inr ⟨(i - 1).toNat, (Int.toNat_lt hp).mpr (Int.sub_one_lt_of_le front.2),
      by rw [toZeroBased, if_neg h0, if_neg h1, if_neg h2, if_neg h3],
      by rw [toNormalized, if_neg h0, if_neg h1, if_neg h2, if_neg h3, Int.toNat_of_nonneg hp,
        Int.sub_add_cancel],
      by rw [pos, if_pos front]⟩
  by_cases back : -(n : Int) ≤ i ∧ i ≤ -1
  · obtain ⟨h0, h1, h2, h3, hlt⟩ :
        n ≠ 0 ∧ i ≠ 0 ∧ ¬ (i < -(n : Int) ∨ i > n) ∧ i < 0 ∧ i + n < n := by omega
    have hp : 0 ≤ i + n := Int.add_nonneg_iff_neg_le.mpr back.1
    exact .inr ⟨(i + n).toNat, (Int.toNat_lt hp).mpr hlt,
      by rw [toZeroBased, if_neg h0, if_neg h1, if_neg h2, if_pos h3],
      by rw [toNormalized, if_neg h0, if_neg h1, if_neg h2, if_pos h3, Int.toNat_of_nonneg hp],
      by rw [pos, if_neg front, if_pos back, Int.add_comm]⟩
  have hp : pos n i = none := by rw [pos, if_neg front, if_neg back]
  by_cases h0 : n = 0
  · exact .inl ⟨.emptyIndex, by rw [toZeroBased, if_pos h0], by rw [toNormalized, if_pos h0], hp⟩
  by_cases h1 : i = 0
  · exact .inl ⟨.zeroIndex, by rw [toZeroBased, if_neg h0, if_pos h1],
      by rw [toNormalized, if_neg h0, if_pos h1], hp⟩
  have h2 : i < -(n : Int) ∨ i > n := by omega
  exact .inl ⟨.outOfRange, by rw [toZeroBased, if_neg h0, if_neg h1, if_pos h2],
    by rw [toNormalized, if_neg h0, if_neg h1, if_pos h2], hp⟩

theorem toNormalized_eq (n : Nat) (i : Int) :
    toNormalized n i = (toZeroBased n i).map fun p => (p : Int) + 1 := by
  rcases index_cases n i with ⟨c, h1, h2, _⟩ | ⟨p, _, h1, h2, _⟩ <;> rw [h1, h2] <;> rfl

theorem pos_eq (n : Nat) (i : Int) : pos n i = (toZeroBased n i).toOption := by
  rcases index_cases n i with ⟨c, h1, _, h3⟩ | ⟨p, _, h1, _, h3⟩ <;> rw [h1, h3] <;> rfl

theorem toZeroBased_lt {n : Nat} {i : Int} {p : Nat} (h : toZeroBased n i = .ok p) : p < n := by
  rcases index_cases n i with ⟨c, h1, _⟩ | ⟨q, hq, h1, _⟩ <;> rw [h1] at h <;> cases h
  exact hq

theorem toZeroBased_succ {n p : Nat} (h : p < n) : toZeroBased n ((p : Int) + 1) = .ok p := by
  obtain ⟨h0, h1, h2, h3⟩ : n ≠ 0 ∧ (p : Int) + 1 ≠ 0 ∧
      ¬ ((p : Int) + 1 < -(n : Int) ∨ (p : Int) + 1 > n) ∧ ¬ (p : Int) + 1 < 0 := by omega
  rw [toZeroBased, if_neg h0, if_neg h1, if_neg h2, if_neg h3, Int.add_sub_cancel, Int.toNat_natCast]

theorem toZeroBased_natCast {n m : Nat} (h1 : 1 ≤ m) (h2 : m ≤ n) :
    toZeroBased n (m : Int) = .ok (m - 1) := by
  obtain ⟨p, rfl⟩ := Nat.exists_eq_succ_of_ne_zero (Nat.ne_of_gt h1)
  exact toZeroBased_succ h2

theorem setValue_at (done : List α) (x : α) (rest : List α) (v : α) :
    setValue (done ++ x :: rest) ((done.length : Int) + 1) v = .ok (done ++ v :: rest) := by
  rw [setValue, toZeroBased_succ (by simp)]
  simp

theorem insertLoop_after [Inhabited α] (slot : Nat) (v : α) :
    ∀ (it : List α) (index : Nat), slot < index → insertLoop slot v it.length index it = it := by
  intro it
  induction it with
  | nil => intro _ _; rfl
  | cons x xs ih =>
    intro index h
    rw [List.length_cons, insertLoop, if_neg (Nat.ne_of_gt h), itNext,
      ih (index+1) (Nat.lt_succ_of_lt h)]

theorem insertLoop_before [Inhabited α] (slot : Nat) (v : α) (d : Nat) :
    ∀ (it : List α) (index : Nat), index + d = slot → d ≤ it.length →
      insertLoop slot v (it.length + 1) index it = it.take d ++ v :: it.drop d := by
  induction d with
  | zero =>
    intro it index (h : index = slot) _
    rw [insertLoop, if_pos h, insertLoop_after slot v it (index+1) (h ▸ Nat.lt_succ_self _)]; rfl
  | succ d ih =>
    intro it index h hl
    cases it with
    | nil => cases hl
    | cons x xs =>
      have ne : index ≠ slot := h ▸ Nat.ne_of_lt (Nat.lt_add_of_pos_right (Nat.succ_pos d))
      -- `index + 1 + d` is `index + (d + 1)`: the next round's hypotheses are this round's
      rw [List.length_cons, insertLoop, if_neg ne, itNext,
        ih xs (index + 1) (by rw [Nat.succ_add_eq_add_succ]; exact h) (Nat.le_of_succ_le_succ hl)]
      rfl

theorem insertValue_eq [Inhabited α] (l : List α) (slot : Nat) (v : α) :
    insertValue l slot v =
      if slot ≤ l.length then .ok (l.take slot ++ v :: l.drop slot) else .error .slot := by
  unfold insertValue
  by_cases h : slot ≤ l.length
  · rw [if_neg (Nat.not_lt.mpr h), if_pos h, insertLoop_before slot v slot l 0 (Nat.zero_add _) h]
  · rw [if_pos (Nat.lt_of_not_le h), if_neg h]

theorem insertsLoop_after [Inhabited α] (size slot : Nat) (vs : List α) (fuel : Nat) :
    ∀ (it : List α) (index : Nat), size = index + it.length → it.length < fuel →
      insertsLoop size slot vs fuel index true it = some it := by
  induction fuel with
  | zero => intro _ _ _ hf; cases hf
  | succ f ih =>
    intro it index hs hf
    rw [insertsLoop]
    cases it with
    | nil => rw [if_neg (Nat.lt_irrefl _ <| hs ▸ ·)]
    | cons x xs =>
      have lt : index < size := hs ▸ Nat.lt_add_of_pos_right (Nat.succ_pos _)
      rw [if_pos lt, if_neg (by simp), itNext,
        ih xs (index + 1) (by rw [Nat.succ_add_eq_add_succ]; exact hs) (Nat.lt_of_succ_lt_succ hf)]
      rfl

theorem insertsLoop_before [Inhabited α] (size slot : Nat) (vs : List α) (fuel : Nat) :
    ∀ (d : Nat) (it : List α) (index : Nat), size = index + it.length + vs.length →
      index + d = slot → d ≤ it.length → it.length + 1 < fuel →
      insertsLoop size slot vs fuel index false it = some (it.take d ++ vs ++ it.drop d) := by
  induction fuel with
  | zero => intro _ _ _ _ _ _ hf; cases hf
  | succ f ih =>
    intro d it index hs h hl hf
    rw [insertsLoop]
    cases d with
    | zero =>
      by_cases lt : index < size
      · rw [if_pos lt, if_pos ⟨h, rfl⟩, insertsLoop_after size slot vs f it _
          (by rw [hs, Nat.add_right_comm]) (Nat.lt_of_succ_lt_succ hf)]
        rfl
      · -- index = size: nothing left to copy and the operand is empty
        have hz : it.length + vs.length = 0 := by omega
        rw [if_neg lt, List.eq_nil_of_length_eq_zero (Nat.eq_zero_of_add_eq_zero_right hz),
          List.eq_nil_of_length_eq_zero (Nat.eq_zero_of_add_eq_zero_left hz)]; rfl
    | succ d =>
      cases it with
      | nil => cases hl
      | cons x xs =>
        have lt : index < size :=
          hs ▸ Nat.lt_add_right _ (Nat.lt_add_of_pos_right (Nat.succ_pos _))
        have ne : index ≠ slot := h ▸ Nat.ne_of_lt (Nat.lt_add_of_pos_right (Nat.succ_pos d))
        rw [if_pos lt, if_neg (fun c => ne c.1), itNext,
          ih d xs (index + 1) (by rw [Nat.succ_add_eq_add_succ]; exact hs)
            (by rw [Nat.succ_add_eq_add_succ]; exact h) (Nat.le_of_succ_le_succ hl)
            (Nat.lt_of_succ_lt_succ hf)]
        rfl

theorem insertValues_eq [Inhabited α] (l : List α) (slot : Nat) (vs : List α) :
    insertValues l slot vs =
      some (if slot ≤ l.length then .ok (l.take slot ++ vs ++ l.drop slot) else .error .slot) := by
  unfold insertValues
  by_cases h : slot ≤ l.length
  · have fuel : l.length + 1 < l.length + vs.length + 2 :=
      Nat.succ_lt_succ (Nat.lt_succ_of_le (Nat.le_add_right _ _))
    rw [if_neg (Nat.not_lt.mpr h), if_pos h,
      insertsLoop_before _ slot vs _ slot l 0 (by rw [Nat.zero_add]) (Nat.zero_add _) h fuel]; rfl
  · rw [if_pos (Nat.lt_of_not_le h), if_neg h]

theorem removeLoop_done : ∀ (l : List α) (c : Int), c ≤ 0 → removeLoop c l = l := by
  intro l
  induction l with
  | nil => intro _ _; rfl
  | cons x xs ih =>
    intro c h
    have lt : c - 1 < 0 := Int.sub_one_lt_of_le h
    rw [removeLoop, if_neg (Int.ne_of_lt lt), ih (c - 1) (Int.le_of_lt lt)]

theorem removeLoop_spec :
    ∀ (l : List α) (p : Nat), removeLoop ((p : Int) + 1) l = l.eraseIdx p := by
  intro l
  induction l with
  | nil => intro _; rfl
  | cons x xs ih =>
    intro p
    rw [removeLoop, Int.add_sub_cancel]
    cases p with
    | zero =>
      rw [if_pos Int.natCast_zero, removeLoop_done xs _ (Int.le_of_eq Int.natCast_zero)]; rfl
    | succ p =>
      rw [if_neg (Int.natCast_ne_zero.mpr (Nat.succ_ne_zero p)), Int.natCast_succ, ih p]; rfl

theorem removeValue_eq [Inhabited α] (l : List α) (i : Int) :
    removeValue l i = (toZeroBased l.length i).map fun p => (l.getD p default, l.eraseIdx p) := by
  unfold removeValue getValue
  rw [toNormalized_eq]
  cases toZeroBased l.length i with
  | error c => rfl
  | ok p => exact congrArg (fun r => Except.ok (l.getD p default, r)) (removeLoop_spec l p)

theorem removeValue_length [Inhabited α] {l : List α} {i : Int} {r : α × List α}
    (h : removeValue l i = .ok r) : r.2.length ≤ l.length := by
  rw [removeValue_eq] at h
  cases hp : toZeroBased l.length i with
  | error c => rw [hp] at h; cases h
  | ok p => rw [hp] at h; cases h; exact List.length_eraseIdx_le l p

theorem splitLoop_eq (first last : Nat) (h : first ≤ last + 1) (l : List α) : ∀ (c : Nat),
    splitLoop first last c l =
      (l.take (first - 1 - c) ++ l.drop (last - c), (l.take (last - c)).drop (first - 1 - c)) := by
  induction l with
  | nil => intro c; simp [splitLoop]
  | cons x xs ih =>
    intro c
    rw [splitLoop, ih (c + 1)]
    -- a truncated difference steps down with `c` as long as `c` is below
    have sub_step {a : Nat} (h : c < a) : a - c = a - (c + 1) + 1 :=
      (Nat.sub_add_cancel (Nat.sub_pos_of_lt h)).symm
    by_cases before : c + 1 < first
    · have lt : c < last := Nat.lt_of_succ_lt_succ (Nat.lt_of_lt_of_le before h)
      rw [if_pos (.inl before), sub_step (Nat.lt_sub_of_add_lt before), sub_step lt]; rfl
    · have z : first - 1 ≤ c := Nat.sub_le_of_le_add (Nat.le_of_not_lt before)
      rw [Nat.sub_eq_zero_of_le z, Nat.sub_eq_zero_of_le (Nat.le_succ_of_le z)]
      by_cases after : c + 1 > last
      · rw [if_pos (.inr after), Nat.sub_eq_zero_of_le (Nat.le_of_lt_succ after),
          Nat.sub_eq_zero_of_le (Nat.le_of_lt after)]; rfl
      · rw [if_neg (not_or.mpr ⟨before, after⟩),
          sub_step (Nat.lt_of_succ_le (Nat.le_of_not_lt after))]; rfl

theorem removeValues_eq (l : List α) (first last : Int) :
    removeValues l first last =
      match toZeroBased l.length first with
      | .error p => .error p
      | .ok f =>
        match toZeroBased l.length last with
        | .error p => .error p
        | .ok la =>
          if f > la + 1 then .error .rt
          else .ok ((l.drop f).take (la + 1 - f), l.take f ++ l.drop (la + 1)) := by
  unfold removeValues
  rw [toNormalized_eq, toNormalized_eq]
  cases toZeroBased l.length first with
  | error c => rfl
  | ok f =>
    cases toZeroBased l.length last with
    | error c => rfl
    | ok la =>
      show (if (la : Int) + 1 - (f + 1) + 1 < 0 then _ else _) = if f > la + 1 then _ else _
      -- Go computes the size of the range on `int`s
      have hc : (la : Int) + 1 - (f + 1) + 1 < 0 ↔ f > la + 1 := by omega
      by_cases h : f > la + 1
      · rw [if_pos (hc.mpr h), if_pos h]
      · rw [if_neg (mt hc.mp h), if_neg h, Int.toNat_natCast_add_one, Int.toNat_natCast_add_one,
          splitLoop_eq _ _ (Nat.succ_le_succ (Nat.le_of_not_lt h)), List.drop_take]
        rfl

theorem getIndexFrom_spec (eqv : α → α → Bool) (v : α) : ∀ (l : List α) (k : Nat),
    getIndexFrom eqv v k l = match l.findIdx? (fun c => eqv c v) with
      | none => 0 | some i => k + i + 1 := by
  intro l
  induction l with
  | nil => intro k; simp [getIndexFrom]
  | cons c cs ih =>
    intro k
    simp only [getIndexFrom, List.findIdx?_cons]
    by_cases h : eqv c v = true
    · simp [h]
    · simp only [h]
      rw [ih (k+1)]
      cases List.findIdx? (fun c => eqv c v) cs with
      | none => simp
      | some i => simp; omega

theorem getIndex_spec (eqv : α → α → Bool) (l : List α) (v : α) :
    getIndex eqv l v = firstIndex eqv l v := by
  unfold getIndex firstIndex
  rw [getIndexFrom_spec]
  cases List.findIdx? (fun c => eqv c v) l <;> simp

theorem containsValue_spec (eqv : α → α → Bool) (l : List α) (v : α) :
    containsValue eqv l v = l.any (fun c => eqv c v) := by
  rw [← List.findIdx?_isSome, containsValue, getIndex_spec, firstIndex]
  cases List.findIdx? (fun c => eqv c v) l <;> simp

theorem containsAny_spec (eqv : α → α → Bool) (l : List α) : ∀ vs : List α,
    containsAny eqv l vs = vs.any (fun v => l.any (fun c => eqv c v)) := by
  intro vs
  induction vs with
  | nil => rfl
  | cons c cs ih =>
    rw [containsAny, List.any_cons, ← containsValue_spec, ← ih, containsValue]
    by_cases h : getIndex eqv l c > 0 <;> simp [h]

theorem containsAll_spec (eqv : α → α → Bool) (l : List α) : ∀ vs : List α,
    containsAll eqv l vs = vs.all (fun v => l.any (fun c => eqv c v)) := by
  intro vs
  induction vs with
  | nil => rfl
  | cons c cs ih =>
    rw [containsAll, List.all_cons, ← containsValue_spec, ← ih, containsValue]
    by_cases h : getIndex eqv l c = 0 <;> simp [h, Nat.pos_of_ne_zero]

theorem foldl_append_singleton (acc vs : List α) : vs.foldl appendValue acc = acc ++ vs := by
  induction vs generalizing acc with
  | nil => simp
  | cons x xs ih => simp [List.foldl_cons, appendValue, ih]

theorem makeFromSequence_spec (vs : List α) : makeFromSequence vs = vs := by
  unfold makeFromSequence; rw [foldl_append_singleton]; simp

theorem concatenate_spec (a b : List α) : concatenate a b = a ++ b := by
  simp [concatenate, appendValues]

end Seq

namespace SeqSpec
variable {α : Type} [DecidableEq α]

theorem isRet_ret {s s' : List α} {r r' : Seq.Res α} (hs : s' = s) (hr : r' = r) :
    isRet (.ret s' r') s r = true := by
  simp [isRet, hs, hr]

theorem isPanic_panic (s : List α) (c : Panic) : isPanic (.panic s c : Seq.Obs α) s = true := by
  simp [isPanic]

theorem isRetWhere_ret {p : List α → Bool} {s : List α} (r : Seq.Res α) (h : p s = true) :
    isRetWhere (.ret s r) r p = true := by
  simp [isRetWhere, h]

end SeqSpec
end CM
