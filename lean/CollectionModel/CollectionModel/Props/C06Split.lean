/-
  C06, continued — Split and Split followed by Join conserve and order streams: proved for every
  input stream, fan-out n ≥ 1, capacity and interleaving of feeder, helper goroutine(s) and readers.
  The arms of `split_step_inv` and `sj_step_inv` for the feeder and for Split's helper are parallel to each other and
  to those of `fork_step_inv` (Props/C06.lean), on purpose: the state types differ.
-/
import CollectionModel.Props.C06
namespace CM
open CM.Pipes

variable {α : Type}

theorem splitSpec_append (n k : Nat) (v : α) : ∀ (l : List α) (i : Nat),
    splitSpec n k i (l ++ [v]) = splitSpec n k i l ++ (if (i + l.length) % n = k then [v] else [])
  | [], i => by simp [splitSpec]
  | x :: xs, i => by
    have ih := splitSpec_append n k v xs (i + 1)
    have e : i + 1 + xs.length = i + (xs.length + 1) := by rw [Nat.add_assoc, Nat.add_comm 1]
    simp only [List.cons_append, splitSpec, List.length_cons]
    split
    · rw [ih, e]; simp
    · rw [ih, e]

/-- Split's send: every queue, after what was already taken from it (`pre`), stays the share of what was sent -/
theorem splitSpec_push {n k i turn : Nat} {f : Nat → List α} {pre l : List α} (v : α)
    (h : pre ++ f k = splitSpec n k i l) (ht : turn = (i + l.length) % n) :
    pre ++ upd f turn (f turn ++ [v]) k = splitSpec n k i (l ++ [v]) := by
  rw [splitSpec_append, ← ht]
  by_cases hkt : k = turn
  · subst hkt
    rw [upd_same, if_pos rfl, ← h, List.append_assoc]
  · rw [upd_other _ _ _ _ hkt, if_neg (fun e => hkt e.symm), List.append_nil, h]

theorem nextTurn_snoc {n turn : Nat} {l : List α} (hn : 0 < n) (h : turn = l.length % n) (v : α) :
    nextTurn n turn = (l ++ [v]).length % n := by
  have hlt : turn < n := h ▸ Nat.mod_lt _ hn
  rw [List.length_append, List.length_singleton, ← Nat.mod_add_mod, ← h]
  unfold nextTurn
  by_cases hlast : turn + 1 < n
  · rw [if_pos hlast, Nat.mod_eq_of_lt hlast]
  · rw [if_neg hlast, show turn + 1 = n from Nat.le_antisymm hlt (Nat.not_lt.mp hlast), Nat.mod_self]

/-- once Split's helper is in its closing loop it has distributed the whole input (the three clauses are those of
    `SplitInv` and `SJInv`) -/
theorem dist_of_past {input dist inq rest : List α} {ic : Bool} {h : HS α} {k : Nat}
    (eq : dist ++ pendS h ++ inq ++ rest = input) (closedRest : ic = true → rest = [])
    (drained : (∀ v, h ≠ .send v) → h ≠ .recv → inq = [] ∧ ic = true) (hp : Past HS.close HS.done h k) : dist = input := by
  -- either way the helper is neither sending nor receiving, so the input is drained
  have hs : (∀ v, h ≠ .send v) ∧ h ≠ .recv ∧ pendS h = [] := by
    rcases hp with ⟨j, hj, _⟩ | hj
    · rw [hj]; exact ⟨nofun, nofun, rfl⟩
    · rw [hj]; exact ⟨nofun, nofun, rfl⟩
  have hd := drained hs.1 hs.2.1
  rwa [hs.2.2, hd.1, closedRest hd.2, List.append_nil, List.append_nil, List.append_nil] at eq

structure SplitInv (input : List α) (n : Nat) (s : SS α) : Prop where
  eq : s.dist ++ pendS s.h ++ s.inq ++ s.rest = input
  outs : ∀ k, k < n → s.reads k ++ s.buf k = splitSpec n k 0 s.dist
  turn : s.turn = s.dist.length % n
  closedRest : s.inClosed = true → s.rest = []
  drained : (∀ v, s.h ≠ .send v) → s.h ≠ .recv → s.inq = [] ∧ s.inClosed = true
  noLate : ∀ k, s.oclosed k = true → (∃ j, s.h = .close j ∧ k < j) ∨ s.h = .done

theorem split_step_inv (input : List α) (n cap : Nat) (hn : 0 < n) (s t : SS α) (hi : SplitInv input n s)
    (hs : SStep n cap s t) : SplitInv input n t := by
  cases hs with
  | feed v r h1 h2 h3 =>
    exact { hi with
      eq := by rw [append_move, ← h1]; exact hi.eq
      closedRest := fun hc => nomatch h3.symm.trans hc
      drained := fun a b => nomatch h3.symm.trans (hi.drained a b).2 }
  | feedClose h1 h3 =>
    exact { hi with closedRest := fun _ => h1, drained := fun a b => ⟨(hi.drained a b).1, rfl⟩ }
  | hRecv v q h1 h2 =>
    exact { hi with
      eq := by have := hi.eq; rw [h1, h2, ← append_move] at this; exact this
      drained := fun a => absurd rfl (a v)
      noLate := noLate_of_open hi.noLate h1 nofun nofun }
  | hRecvClosed h1 h2 h3 =>
    exact { hi with
      eq := by have := hi.eq; rw [h1] at this; exact this
      drained := fun _ _ => ⟨h2, h3⟩
      noLate := noLate_of_open hi.noLate h1 nofun nofun }
  | hSend v h1 h2 h3 =>
    exact { hi with
      eq := by have := hi.eq; rw [h1] at this; simpa only [pendS, List.append_nil] using this
      outs := fun k hk => splitSpec_push v (hi.outs k hk) (by rw [Nat.zero_add]; exact hi.turn)
      turn := nextTurn_snoc hn hi.turn v
      drained := fun _ b => absurd rfl b
      noLate := noLate_of_open hi.noLate h1 nofun nofun }
  | hClose k h1 hk =>
    exact { hi with
      eq := by have := hi.eq; rw [h1] at this; split <;> exact this
      drained := fun _ _ => hi.drained (by rw [h1]; exact fun _ => nofun) (by rw [h1]; nofun)
      noLate := noLate_close closingPC_HS hi.noLate h1 }
  | read k v b hk h1 h2 => exact { hi with outs := fun j hj => (upd_read h1 j).trans (hi.outs j hj) }
  | readClosed k hk h1 h2 => exact { hi with }

/-- **Split, every reachable state of every interleaving**: output k has received (read or buffered)
    exactly the values at positions ≡ k (mod n) of what has been distributed so far, in order, and
    distributed ++ in-flight ++ queued ++ unfed = input -/
theorem C06_split_inv (input : List α) (n cap : Nat) (hn : 0 < n) (s : SS α) (h : SReach n cap (initSS input) s) :
    SplitInv input n s := by
  induction h with
  | init =>
    exact {
      eq := rfl
      outs := fun _ _ => rfl
      turn := (Nat.zero_mod n).symm
      closedRest := nofun
      drained := fun _ h => absurd rfl h
      noLate := nofun }
  | step _ hst ih => exact split_step_inv input n cap hn _ _ ih hst

/-- **Split gives every input value to exactly one output in round-robin order** -/
theorem C06_split_final (input : List α) (n cap : Nat) (hn : 0 < n) (s : SS α) (h : SReach n cap (initSS input) s)
    (hdone : s.h = .done) (hempty : ∀ k, k < n → s.buf k = []) : ∀ k, k < n → s.reads k = splitSpec n k 0 input := by
  intro k hk
  have inv := C06_split_inv input n cap hn s h
  have o := inv.outs k hk
  rwa [hempty k hk, List.append_nil, dist_of_past inv.eq inv.closedRest inv.drained (k := 0) (.inr hdone)] at o

/-- **nothing is sent to an output after its closure** -/
theorem C06_split_no_late (input : List α) (n cap : Nat) (hn : 0 < n) (s : SS α) (h : SReach n cap (initSS input) s)
    (k : Nat) (hc : s.oclosed k = true) : ∀ v, s.h ≠ .send v := by
  intro v hh
  rcases (C06_split_inv input n cap hn s h).noLate k hc with ⟨m, hm, _⟩ | hd
  · rw [hh] at hm; cases hm
  · rw [hh] at hd; cases hd

structure SJInv (input : List α) (n : Nat) (s : SJ α) : Prop where
  eq : s.dist ++ pendS s.h ++ s.inq ++ s.rest = input
  pre : s.tk ++ s.later = s.dist
  mids : ∀ k, k < n → s.mid k = splitSpec n k s.tk.length s.later
  turn : s.turn = s.dist.length % n
  jout : s.rd ++ s.ob ++ pendJ s.hj = s.tk
  turnJ : s.turnJ = (s.rd ++ s.ob).length % n
  closedRest : s.inClosed = true → s.rest = []
  drained : (∀ v, s.h ≠ .send v) → s.h ≠ .recv → s.inq = [] ∧ s.inClosed = true
  noLate : ∀ k, s.mclosed k = true → (∃ j, s.h = .close j ∧ k < j) ∨ s.h = .done
  jfin : (s.hj = .close ∨ s.hj = .done) → s.later = [] ∧ s.dist = input
  oLate : s.oClosed = true → s.hj = .done

/-- while Join waits for a value everything it took has been forwarded, so its iterator points at queue |tk| mod n -/
theorem SJInv.at_recv {input : List α} {n : Nat} {s : SJ α} (hi : SJInv input n s) (hn : 0 < n) (h1 : s.hj = .recv) :
    s.rd ++ s.ob = s.tk ∧ s.turnJ = s.tk.length % n ∧ s.mid s.turnJ = splitSpec n s.turnJ s.tk.length s.later := by
  have hjo := hi.jout
  rw [h1] at hjo
  simp only [pendJ, List.append_nil] at hjo
  have htj : s.turnJ = s.tk.length % n := by rw [hi.turnJ, hjo]
  exact ⟨hjo, htj, hi.mids _ (by rw [htj]; exact Nat.mod_lt _ hn)⟩

/-- the oldest value in flight sits in the queue Join is waiting on: if that queue is empty, none is in flight -/
theorem SJInv.later_nil {input : List α} {n : Nat} {s : SJ α} (hi : SJInv input n s) (hn : 0 < n) (h1 : s.hj = .recv)
    (h2 : s.mid s.turnJ = []) : s.later = [] := by
  obtain ⟨-, htj, hm⟩ := hi.at_recv hn h1
  cases hl : s.later with
  | nil => rfl
  | cons x l => rw [h2, hl] at hm; simp [splitSpec, ← htj] at hm

theorem SJInv.mid_nil {input : List α} {n k : Nat} {s : SJ α} (hi : SJInv input n s) (hl : s.later = []) (hk : k < n) :
    s.mid k = [] := by
  rw [hi.mids k hk, hl]; rfl

theorem sj_step_inv (input : List α) (n cap : Nat) (hn : 0 < n) (s t : SJ α) (hi : SJInv input n s)
    (hs : JStep n cap s t) : SJInv input n t := by
  cases hs with
  | feed v r h1 h2 h3 =>
    exact { hi with
      eq := by rw [append_move, ← h1]; exact hi.eq
      closedRest := fun hc => nomatch h3.symm.trans hc
      drained := fun a b => nomatch h3.symm.trans (hi.drained a b).2 }
  | feedClose h1 h3 =>
    exact { hi with closedRest := fun _ => h1, drained := fun a b => ⟨(hi.drained a b).1, rfl⟩ }
  | hRecv v q h1 h2 =>
    exact { hi with
      eq := by have := hi.eq; rw [h1, h2, ← append_move] at this; exact this
      drained := fun a => absurd rfl (a v)
      noLate := noLate_of_open hi.noLate h1 nofun nofun }
  | hRecvClosed h1 h2 h3 =>
    exact { hi with
      eq := by have := hi.eq; rw [h1] at this; exact this
      drained := fun _ _ => ⟨h2, h3⟩
      noLate := noLate_of_open hi.noLate h1 nofun nofun }
  | hSend v h1 h2 h3 =>
    have hlen : s.tk.length + s.later.length = s.dist.length := by rw [← hi.pre, List.length_append]
    exact { hi with
      eq := by have := hi.eq; rw [h1] at this; simpa only [pendS, List.append_nil] using this
      pre := by rw [← hi.pre]; exact (List.append_assoc ..).symm
      mids := fun k hk => splitSpec_push (pre := []) v (hi.mids k hk) (by rw [hlen]; exact hi.turn)
      turn := nextTurn_snoc hn hi.turn v
      drained := fun _ b => absurd rfl b
      noLate := noLate_of_open hi.noLate h1 nofun nofun
      jfin := fun hf => by
        -- Join cannot have finished while Split still holds a value
        have e := hi.eq
        rw [h1, (hi.jfin hf).2, List.append_assoc, List.append_assoc] at e
        cases List.append_right_eq_self.mp e }
  | hClose k h1 hk =>
    exact { hi with
      eq := by have := hi.eq; rw [h1] at this; split <;> exact this
      drained := fun _ _ => hi.drained (by rw [h1]; exact fun _ => nofun) (by rw [h1]; nofun)
      noLate := noLate_close closingPC_HS hi.noLate h1 }
  | jRecv v b h1 h2 =>
    obtain ⟨hjo, htj, hm⟩ := hi.at_recv hn h1
    rw [h2] at hm
    -- the head of that input is the oldest value not yet taken
    cases hl : s.later with
    | nil => rw [hl] at hm; cases hm
    | cons x l' =>
      rw [hl, splitSpec, ← htj, if_pos rfl] at hm
      injection hm with hx hb
      subst hx
      exact { hi with
        pre := by rw [← hi.pre, hl]; exact (List.append_cons ..).symm
        mids := fun k hk => by
          dsimp only
          rw [List.tail_cons, List.length_append, List.length_singleton]
          by_cases hkt : k = s.turnJ
          · rw [hkt, upd_same]; exact hb
          · have := hi.mids k hk
            rw [hl, splitSpec, if_neg (fun e => hkt (e.symm.trans htj.symm))] at this
            rwa [upd_other _ _ _ _ hkt]
        jout := by rw [← hjo]; rfl
        jfin := fun hf => by rcases hf with hf | hf <;> cases hf
        oLate := fun hc => by have := hi.oLate hc; rw [h1] at this; cases this }
  | jRecvClosed h1 h2 h3 =>
    exact { hi with
      jout := (List.append_nil _).trans (hi.at_recv hn h1).1
      jfin := fun _ => ⟨hi.later_nil hn h1 h2, dist_of_past hi.eq hi.closedRest hi.drained (hi.noLate _ h3)⟩
      oLate := fun hc => by have := hi.oLate hc; rw [h1] at this; cases this }
  | jSend v h1 h2 h3 =>
    have hjo := hi.jout
    rw [h1] at hjo
    exact { hi with
      jout := by rw [← hjo]; exact (List.append_nil _).trans (List.append_assoc ..).symm
      turnJ := by rw [← List.append_assoc]; exact nextTurn_snoc hn hi.turnJ v
      jfin := fun hf => by rcases hf with hf | hf <;> cases hf
      oLate := fun (hc : s.oClosed = true) => by rw [h3] at hc; cases hc }
  | jClose h1 =>
    have hjo := hi.jout
    rw [h1] at hjo
    exact { hi with
      jout := hjo
      jfin := fun _ => hi.jfin (Or.inl h1)
      oLate := fun _ => rfl }
  | read v b h1 h2 =>
    have hjo := hi.jout
    have htj := hi.turnJ
    rw [h1, List.append_cons] at hjo htj
    exact { hi with jout := hjo, turnJ := htj }
  | readClosed h1 h2 => exact { hi with }

/-- **Split → Join, every reachable state of every interleaving** -/
theorem C06_splitjoin_inv (input : List α) (n cap : Nat) (hn : 0 < n) (s : SJ α) (h : JReach n cap (initSJ input) s) :
    SJInv input n s := by
  induction h with
  | init =>
    exact {
      eq := rfl
      pre := rfl
      mids := fun _ _ => rfl
      turn := (Nat.zero_mod n).symm
      jout := rfl
      turnJ := (Nat.zero_mod n).symm
      closedRest := nofun
      drained := fun _ h => absurd rfl h
      noLate := nofun
      jfin := fun h => h.elim nofun nofun
      oLate := nofun }
  | step _ hst ih => exact sj_step_inv input n cap hn _ _ ih hst

/-- **Split followed by Join delivers exactly the input sequence in order**: once the Join
    helper has finished and the joined queue is drained, its reader has read the input -/
theorem C06_splitjoin_final (input : List α) (n cap : Nat) (hn : 0 < n) (s : SJ α) (h : JReach n cap (initSJ input) s)
    (hdone : s.hj = .done) (hempty : s.ob = []) : s.rd = input := by
  have inv := C06_splitjoin_inv input n cap hn s h
  obtain ⟨later_nil, dist_eq⟩ := inv.jfin (Or.inr hdone)
  -- rd = rd ++ ob ++ pendJ done = tk = tk ++ later = dist = input
  have hj := inv.jout
  simp only [hdone, hempty, pendJ, List.append_nil] at hj
  have hp := inv.pre
  rw [later_nil, dist_eq, List.append_nil] at hp
  exact hj.trans hp

/-- **nothing is lost when Join stops** at the first closed and drained input: no other
    intermediate queue still holds a value, and Split has distributed the whole input -/
theorem C06_join_stops_only_when_empty (input : List α) (n cap : Nat) (hn : 0 < n) (s : SJ α)
    (h : JReach n cap (initSJ input) s) (hj : s.hj = .close ∨ s.hj = .done) :
    (∀ k, k < n → s.mid k = []) ∧ s.dist = input := by
  have inv := C06_splitjoin_inv input n cap hn s h
  have hf := inv.jfin hj
  refine ⟨?_, hf.2⟩
  exact fun k hk => inv.mid_nil hf.1 hk

/-- **nothing reaches the joined queue after its closure** -/
theorem C06_join_no_late (input : List α) (n cap : Nat) (hn : 0 < n) (s : SJ α) (h : JReach n cap (initSJ input) s)
    (hc : s.oClosed = true) : ∀ v, s.hj ≠ .send v := by
  intro v hh
  have := (C06_splitjoin_inv input n cap hn s h).oLate hc
  rw [hh] at this; cases this

example : splitSpec 3 1 0 [10, 11, 12, 13, 14] = [11, 14] := by decide

end CM
