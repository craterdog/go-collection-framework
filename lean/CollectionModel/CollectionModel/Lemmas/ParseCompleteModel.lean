/-
  Completeness of the parse methods of the model on the token sequences of sentences: each statement is what the
  simulation makes of the corresponding one about the reference parser.  Nothing downstream uses these corollaries
  (`C11_sentence_accepted` goes through `rcSource` and `parseTokens_sim`): they say what holds method by method.
-/
import CollectionModel.Lemmas.ParseComplete
import CollectionModel.Lemmas.ParseTotal
namespace CM
namespace Cdcn
open RefOut

variable (env : Env)

/-- a method returned the value `a` having consumed exactly the expected tokens -/
def Done {α : Type} (r : PR α) (a : α) (rest : List Token) : Prop :=
  ∃ tok s', r = .ok a tok s' ∧ stream s' = rest ∧ WF env s' ∧ TokOk env tok

/-- a method reported `ok = false` and restored the stream -/
def Refused {α : Type} (r : PR α) (s : PS) (d : Nat) : Prop :=
  ∃ tok s', r = .no tok s' ∧ stream s' = stream s ∧ WF env s' ∧ s'.stack.length ≤ max s.stack.length d ∧ TokOk env tok

variable {env} in
theorem Sim.done {α : Type} {d : Nat} {s : PS} {r : PR α} {o : Option (RefOut α)} {a : α} {rest : List Token}
    (h : Sim env d s r o) (e : o = ret a rest) : Done env r a rest := by
  subst e
  cases h with
  | accept a tok s' hw _ ht => exact ⟨tok, s', rfl, rfl, hw, ht⟩

variable {env} in
theorem Sim.refused {α : Type} {d : Nat} {s : PS} {r : PR α} {o : Option (RefOut α)} (h : Sim env d s r o)
    (e : o = some .refuse) : Refused env r s d := by
  subst e
  cases h with
  | refuse tok s' _ hb ht => exact ⟨tok, s', rfl, hb.eq, hb.wf, hb.stk, ht⟩

theorem parseValue_refuse (hcap : 3 < env.stackSize) (f : Nat) (s : PS) (h : WF env s) (hf : Fuel 2 f s) (t : Token)
    (rest : List Token) (hs : stream s = t :: rest) (hl : isLiteralKind t.tt = false) (hb : isDelim t "[" = false)
    (hne : t.tt ≠ .error) : Refused env (parseValue env f s) s 1 :=
  ((simulates env hcap f).value s h hf).refused (hs ▸ refValue_refuse env rest hl hb hne)

theorem parseAssociation_refuse1 (hcap : 3 < env.stackSize) (f : Nat) (s : PS) (h : WF env s) (hf : Fuel 0 f s) (t : Token)
    (rest : List Token) (hs : stream s = t :: rest) (hl : isLiteralKind t.tt = false) (hne : t.tt ≠ .error) :
    Refused env (parseAssociation env f s) s 2 :=
  ((simulates env hcap f).assoc s h hf).refused (hs ▸ refAssociation_refuse1 env rest hl hne)

theorem parseAssociation_refuse2 (hcap : 3 < env.stackSize) (f : Nat) (s : PS) (h : WF env s) (hf : Fuel 0 f s) (t u : Token)
    (rest : List Token) (v : Val) (hs : stream s = t :: u :: rest) (hl : isLiteralKind t.tt = true) (hc : env.conv t = some v)
    (hu : isDelim u ":" = false) (hne : u.tt ≠ .error) : Refused env (parseAssociation env f s) s 2 :=
  ((simulates env hcap f).assoc s h hf).refused (hs ▸ refAssociation_refuse2 env rest hl hc hu hne)

theorem parseAssociations_refuse_nonlit (hcap : 3 < env.stackSize) (f : Nat) (s : PS) (h : WF env s) (hf : Fuel 2 f s) (t : Token)
    (rest : List Token) (hs : stream s = t :: rest) (hl : isLiteralKind t.tt = false) (hc : isDelim t ":" = false)
    (he : isEol t = false) (hne : t.tt ≠ .error) : Refused env (parseAssociations env f s) s 3 :=
  ((simulates env hcap f).assocs s h hf).refused
    (hs ▸ refAssociations_refuse env rest hc he hne (refAssociation_refuse1 env rest hl hne))

theorem parseAssociations_refuse_lit (hcap : 3 < env.stackSize) (f : Nat) (s : PS) (h : WF env s) (hf : Fuel 2 f s) (t u : Token)
    (rest : List Token) (v : Val) (hs : stream s = t :: u :: rest) (hl : isLiteralKind t.tt = true) (hcv : env.conv t = some v)
    (hu : isDelim u ":" = false) (hne : u.tt ≠ .error) : Refused env (parseAssociations env f s) s 3 :=
  ((simulates env hcap f).assocs s h hf).refused
    (hs ▸ refAssociations_refuse env _ (literal_not_delim t ":" hl) (literal_not_eol t hl) (literal_ne_error t hl)
      (refAssociation_refuse2 env rest hl hcv hu hne))

theorem parseAssociations_refuse_eol (hcap : 3 < env.stackSize) (f : Nat) (s : PS) (h : WF env s) (hf : Fuel 2 f s) (e : Token)
    (rest : List Token) (hs : stream s = e :: rest) (he : isEol e = true) (hassoc : refAssociation env rest = some .refuse) :
    Refused env (parseAssociations env f s) s 3 :=
  ((simulates env hcap f).assocs s h hf).refused (hs ▸ refAssociations_refuse_eol env rest he hassoc)

theorem cValue (hcap : 3 < env.stackSize) : ∀ (v : SValue) (f : Nat) (s : PS) (rest : List Token) (x : Val),
    v.Good → v.mean env = some x → stream s = v.toks ++ rest → WF env s → Fuel 2 f s → Done env (parseValue env f s) x rest :=
  fun v f s rest x hg hm hs hw hf => ((simulates env hcap f).value s hw hf).done (hs ▸ rcValue env v rest x hg hm)

theorem cItems (hcap : 3 < env.stackSize) : ∀ (i : SItems) (f : Nat) (s : PS) (rest : List Token) (xs : List Val),
    i.Good → i.mean env = some xs → stream s = i.toks ++ rest → ClosesWith rest → WF env s → Fuel 5 f s →
    Done env (parseItems env f s) xs rest :=
  fun i f s rest xs hg hm hs hc hw hf => ((simulates env hcap f).items s hw hf).done (hs ▸ rcItems env i rest xs hg hm hc)

theorem cIVL (hcap : 3 < env.stackSize) : ∀ (more : SVals) (f : Nat) (s : PS) (rest : List Token) (acc : List Val) (x : Val) (xs : List Val),
    more.Good (fun t => isDelim t ",") → more.mean env = some xs → stream s = more.toks ++ rest →
    ∀ (r0 : Token) (r' : List Token), rest = r0 :: r' → isDelim r0 "," = false → r0.tt ≠ .error → WF env s → Fuel 0 f s →
    Done env (inlineValuesLoop env f acc x s) (acc ++ x :: xs) rest :=
  fun more f s rest acc x xs hg hm hs _ r' hr hnc hne hw hf =>
    ((simulates env hcap f).inlineValuesLoop (d := 0) acc x s s hw hf (List.suffix_refl _)).done
      (hs ▸ rcIVL env more rest acc x xs hg hm (hr ▸ refDelim_miss r' hnc hne))

theorem cMVL (hcap : 3 < env.stackSize) : ∀ (more : SVals) (f : Nat) (s : PS) (rest : List Token) (last : Token) (acc : List Val) (x : Val) (xs : List Val),
    more.Good isEol → more.mean env = some xs → stream s = more.toks ++ last :: rest → isEol last = true →
    ∀ (r0 : Token) (r' : List Token), rest = r0 :: r' → isLiteralKind r0.tt = false → isDelim r0 "[" = false → r0.tt ≠ .error →
    WF env s → Fuel 0 f s → Done env (multiValuesLoop env f acc x s) (acc ++ x :: xs) rest :=
  fun more f s rest last acc x xs hg hm hs hl _ r' hr hnl hnb hne hw hf =>
    ((simulates env hcap f).multiValuesLoop (d := 0) acc x s s hw hf (List.suffix_refl _)).done
      (hs ▸ rcMVL env more rest last acc x xs hg hm hl (hr ▸ refValue_refuse env r' hnl hnb hne))

theorem cAssoc (hcap : 3 < env.stackSize) : ∀ (a : SAssoc) (f : Nat) (s : PS) (rest : List Token) (p : Val × Val),
    a.Good → a.mean env = some p → stream s = a.toks ++ rest → WF env s → Fuel 0 f s →
    Done env (parseAssociation env f s) (.assoc p.1 p.2) rest :=
  fun a f s rest p hg hm hs hw hf => ((simulates env hcap f).assoc s hw hf).done (hs ▸ rcAssoc env a rest p hg hm)

theorem cIAL (hcap : 3 < env.stackSize) : ∀ (more : SAssocs) (f : Nat) (s : PS) (rest : List Token) (acc : List (Val × Val)) (k x : Val)
    (ps : List (Val × Val)),
    more.Good (fun t => isDelim t ",") → more.mean env = some ps → stream s = more.toks ++ rest →
    ∀ (r0 : Token) (r' : List Token), rest = r0 :: r' → isDelim r0 "," = false → r0.tt ≠ .error → WF env s → Fuel 0 f s →
    Done env (inlineAssocLoop env f acc (.assoc k x) s)
      ((ps.foldl (fun a p => Val.catalogSet a p.1 p.2) (Val.catalogSet acc k x)).map (fun p => Val.assoc p.1 p.2)) rest :=
  fun more f s rest acc k x ps hg hm hs _ r' hr hnc hne hw hf =>
    ((simulates env hcap f).inlineAssocLoop (d := 0) acc (.assoc k x) s s hw hf (List.suffix_refl _)).done
      (hs ▸ rcIAL env more rest acc k x ps hg hm (hr ▸ refDelim_miss r' hnc hne))

theorem cMAL (hcap : 3 < env.stackSize) : ∀ (more : SAssocs) (f : Nat) (s : PS) (rest : List Token) (last : Token) (acc : List (Val × Val))
    (k x : Val) (tok0 : Option Token) (ps : List (Val × Val)),
    more.Good isEol → more.mean env = some ps → stream s = more.toks ++ last :: rest → isEol last = true →
    ∀ (r0 : Token) (r' : List Token), rest = r0 :: r' → isLiteralKind r0.tt = false → r0.tt ≠ .error → WF env s → Fuel 0 f s →
    Done env (multiAssocLoop env f acc (.assoc k x) tok0 s)
      ((ps.foldl (fun a p => Val.catalogSet a p.1 p.2) (Val.catalogSet acc k x)).map (fun p => Val.assoc p.1 p.2)) rest :=
  fun more f s rest last acc k x tok0 ps hg hm hs hl _ r' hr hnl hne hw hf =>
    ((simulates env hcap f).multiAssocLoop (d := 0) acc (.assoc k x) tok0 s s hw hf (List.suffix_refl _)).done
      (hs ▸ rcMAL env more rest last acc k x ps hg hm hl (hr ▸ refAssociation_refuse1 env r' hnl hne))

end Cdcn
end CM
