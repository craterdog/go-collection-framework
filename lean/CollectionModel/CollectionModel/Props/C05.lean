/-
  C05 — Queue never loses a wake-up: blocked calls resume whenever they can proceed.

  In the model a blocked call is a thread whose next step is not enabled.  The statements
  below hold in every reachable state (accounting invariant) for every number of threads.
  Real wake-ups are the Go runtime's business: the model assumes the textbook channel, and
  the correspondence run (controlled scheduler, all schedules of small programs) ties it to
  the code.  Termination of every well-formed program for all thread counts is NOT proved in
  Lean (finite exploration only); stranding after a concurrent RemoveAll is a recorded finding.
-/
import CollectionModel.Props.C04
namespace CM
open CM.Q

variable {α : Type} [DecidableEq α]

/-- a blocked RemoveHead proceeds exactly when a token is available or the queue is closed -/
theorem C05_recv_enabled_iff (s : St α) (t : Nat) (h : s.threads[t]? = some .remRecv) :
    ((step s (.remRecv t true)).isSome = true ↔ 0 < s.tokens) ∧
    ((step s (.remRecv t false)).isSome = true ↔ (s.tokens = 0 ∧ s.closed = true)) := by
  simp [Option.isSome_iff_exists, step_iff, h]

/-- a blocked AddValue proceeds exactly when the channel has room (or panics if it was closed) -/
theorem C05_send_enabled_iff (s : St α) (t : Nat) (h : s.threads[t]? = some .addSend) :
    ((step s (.addSend t)).isSome = true ↔ (s.closed = false ∧ s.tokens < s.cap)) := by
  simp [Option.isSome_iff_exists, step_iff, h]

/-- **no lost wake-up**: a consumer blocked on an empty open queue and a producer blocked on a
    full queue never coexist (capacity ≥ 1): whenever both kinds of call are pending, one of
    them can proceed -/
theorem C05_no_mutual_block (s : St α) (hcap : 1 ≤ s.cap) (t1 t2 : Nat)
    (h1 : s.threads[t1]? = some .remRecv) (h2 : s.threads[t2]? = some .addSend) (hopen : s.closed = false) :
    (step s (.remRecv t1 true)).isSome = true ∨ (step s (.addSend t2)).isSome = true := by
  by_cases hp : 0 < s.tokens
  · exact Or.inl ((C05_recv_enabled_iff s t1 h1).1.mpr hp)
  · exact Or.inr ((C05_send_enabled_iff s t2 h2).mpr ⟨hopen, by omega⟩)

/-- **a blocked RemoveHead resumes once a value is added**: after the producer's send the consumer is enabled -/
theorem C05_recv_after_send (s s' : St α) (t1 t2 : Nat) (h1 : s.threads[t1]? = some .remRecv) (hne : t1 ≠ t2)
    (h : step s (.addSend t2) = some s') : (step s' (.remRecv t1 true)).isSome = true := by
  obtain ⟨-, rfl⟩ := step_iff.mp h
  exact (C05_recv_enabled_iff _ t1 ((List.getElem?_set_ne (Ne.symm hne)).trans h1)).1.mpr (Nat.succ_pos _)

/-- **a blocked RemoveHead resumes once the queue is closed** (it receives a token, or reports closed-and-drained) -/
theorem C05_recv_after_close (s s' : St α) (t1 t2 : Nat) (h1 : s.threads[t1]? = some .remRecv) (hne : t1 ≠ t2)
    (h : step s (.closeLock t2) = some s') :
    (step s' (.remRecv t1 true)).isSome = true ∨ (step s' (.remRecv t1 false)).isSome = true := by
  obtain ⟨-, rfl⟩ := step_iff.mp h
  have en := C05_recv_enabled_iff { setPC s t2 .idle with closed := true } t1 ((List.getElem?_set_ne (Ne.symm hne)).trans h1)
  rcases Nat.eq_zero_or_pos s.tokens with h0 | hpos
  · exact .inr (en.2.mpr ⟨h0, rfl⟩)
  · exact .inl (en.1.mpr hpos)

/-- **a blocked AddValue resumes once a value is removed** (a token is received) -/
theorem C05_send_after_recv (s s' : St α) (hs : QInv s) (t1 t2 : Nat) (h1 : s.threads[t1]? = some .addSend) (hne : t1 ≠ t2)
    (hopen : s.closed = false) (h : step s (.remRecv t2 true) = some s') : (step s' (.addSend t1)).isSome = true := by
  obtain ⟨⟨-, hpos⟩, rfl⟩ := step_iff.mp h
  exact (C05_send_enabled_iff _ t1 ((List.getElem?_set_ne (Ne.symm hne)).trans h1)).mpr
    ⟨hopen, Nat.lt_of_lt_of_le (Nat.sub_lt hpos Nat.one_pos) hs.2.1⟩

/-- the events of `MakeFromSequence`: AddValue for every value in turn, by one thread -/
def Q.ctorTrace : List α → List (Ev α)
  | [] => []
  | v :: vs => .call 0 (.addLock v) :: .addLock 0 :: .addSend 0 :: Q.ctorTrace vs

/-- **constructing a queue from N initial values returns for every N** (after fix D05b the
    capacity is at least N): every AddValue of the constructor finds room, none blocks -/
theorem C05_ctor_returns : ∀ (vs : List α) (s : St α), s.threads[0]? = some .idle → s.closed = false →
    s.tokens + vs.length ≤ s.cap → (run s (Q.ctorTrace vs)).isSome = true := by
  intro vs
  induction vs with
  | nil => intros; rfl
  | cons v vs ih =>
    intro s h0 hc hcap
    have run_cons {s s' : St α} {e : Ev α} {es : List (Ev α)} (h : step s e = some s')
        (hr : (run s' es).isSome = true) : (run s (e :: es)).isSome = true := by rwa [run_cons_eq es h]
    have room : s.tokens < s.cap := Nat.lt_of_lt_of_le (Nat.lt_add_of_pos_right (Nat.succ_pos _)) hcap
    have rest : s.tokens + 1 + vs.length ≤ s.cap := Nat.add_right_comm .. ▸ hcap
    have h1 := setPC_get h0 (.addLock v)
    have h2 := setPC_get h1 .addSend
    refine run_cons (step_iff.mpr ⟨⟨h0, nofun, nofun, nofun⟩, rfl⟩) ?_
    refine run_cons (step_iff.mpr ⟨v, h1, rfl⟩) ?_
    refine run_cons (step_iff.mpr ⟨⟨h2, hc, room⟩, rfl⟩) ?_
    exact ih _ (setPC_get h2 .idle) hc rest

/-- **recorded finding D05a**: RemoveAll replaces the channel, so a call parked on the old one is never
    woken; in the model (which keeps one channel) the symptom is the broken accounting: a token
    without a value (cf. C04_counterexample_removeall) -/
theorem C05_counterexample_removeall_breaks_accounting :
    ∃ s : St Nat, run (init 2 3) [.call 0 (.addLock 7), .addLock 0, .call 2 .removeAllLock, .removeAllLock 2, .addSend 0] = some s ∧
      s.tokens = 1 ∧ s.vals = [] := by
  refine ⟨_, rfl, ?_, ?_⟩ <;> decide

end CM
