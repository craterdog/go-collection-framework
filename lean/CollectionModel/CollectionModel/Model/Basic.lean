/-
  Basic vocabulary shared by every model: ranks, panic classes, outcomes.
  Core Lean only (no Mathlib) so that the driver links as a `lean_exe`.
-/
namespace CM

/-- `agent.Rank`: LesserRank / EqualRank / GreaterRank. -/
inductive Rank | lt | eq | gt
  deriving DecidableEq, Repr, Inhabited

def Rank.flip : Rank → Rank
  | .lt => .gt | .eq => .eq | .gt => .lt

@[simp] theorem Rank.flip_flip (r : Rank) : r.flip.flip = r := by cases r <;> rfl

def Rank.toString : Rank → String
  | .lt => "lt" | .eq => "eq" | .gt => "gt"

/-- How a Go call can fail.  `lib` = a panic raised by the library itself with a
    textual message (classified by the harness from the message prefix);
    `rt` = a Go runtime error (slice bounds, makeslice, nil dereference, failed
    type assertion, reflect misuse, send on closed channel). -/
inductive Panic
  | emptyIndex      -- "Cannot index an empty Array/List."
  | zeroIndex       -- "Indices must be positive or negative ordinals, not zero."
  | outOfRange      -- "The specified index is outside the allowed ranges ..."
  | slot            -- slot / range outside the sequence (added by the fixes)
  | stackFull | stackEmpty | capacity
  | depth           -- "The maximum traversal depth was exceeded"
  | syntax          -- located syntax diagnostic of the parser
  | lib             -- any other library panic
  | rt              -- Go runtime error
  deriving DecidableEq, Repr, Inhabited

def Panic.toString : Panic → String
  | .emptyIndex => "emptyIndex" | .zeroIndex => "zeroIndex" | .outOfRange => "outOfRange"
  | .slot => "slot" | .stackFull => "stackFull" | .stackEmpty => "stackEmpty"
  | .capacity => "capacity" | .depth => "depth" | .syntax => "syntax" | .lib => "lib" | .rt => "rt"

/-- Go's `int` arithmetic on a 64-bit platform: the mathematical result wrapped into
    [-2^63, 2^63).  The functions translated from the source (Generated/Fns.lean) apply it to
    every `+`, `-`, `*` and negation; the tie theorems show that within the ranges the
    library guarantees the wrap never happens -/
def w64 (x : Int) : Int := (x + 9223372036854775808) % 18446744073709551616 - 9223372036854775808

/-- the range of a Go `int` -/
def IsInt64 (x : Int) : Prop := -9223372036854775808 ≤ x ∧ x < 9223372036854775808

/-- Result of one modelled call: returned (new state, result), panicked (state
    left behind, class), or never returns. -/
inductive Outcome (σ ρ : Type)
  | ret   (s : σ) (r : ρ)
  | panic (s : σ) (c : Panic)
  | hang
  deriving Repr, DecidableEq

structure TotalPreorder {α : Type} (rank : α → α → Rank) : Prop where
  refl : ∀ a, rank a a = .eq
  mirror : ∀ a b, rank b a = (rank a b).flip
  trans : ∀ a b c, rank a b ≠ .gt → rank b c ≠ .gt → rank a c ≠ .gt

def rankInt (a b : Int) : Rank := if a < b then .lt else if b < a then .gt else .eq
def rankNat (a b : Nat) : Rank := if a < b then .lt else if b < a then .gt else .eq

/-! ### for Tie/*: `int` arithmetic that stays in range does not wrap; loops over a fuel argument -/

theorem w64_id {x : Int} (h : IsInt64 x) : w64 x = x := by
  unfold w64; unfold IsInt64 at h; omega

theorem IsInt64.natCast_le {k n : Nat} (hn : IsInt64 (n : Int)) (h : k ≤ n) : IsInt64 (k : Int) :=
  ⟨Int.le_trans (by decide) (Int.natCast_nonneg k), Int.lt_of_le_of_lt (Int.ofNat_le.mpr h) hn.2⟩

theorem IsInt64.succ_le {k n : Nat} (hn : IsInt64 ((n : Int) + 1)) (h : k ≤ n) : IsInt64 ((k : Int) + 1) :=
  IsInt64.natCast_le (k := k + 1) (n := n + 1) hn (Nat.succ_le_succ h)

/-- `int` arithmetic whose exact result `x` is a natural number below an `int`-sized bound does not wrap; `hx` is
    an identity between the Go expression and the cast, closed by `rfl` or a core identity (`Int.natCast_add _ _`) -/
theorem w64_natCast {x : Int} {k n : Nat} (hn : IsInt64 (n : Int)) (hx : x = (k : Int)) (h : k ≤ n) : w64 x = (k : Int) := by
  rw [hx, w64_id (hn.natCast_le h)]

theorem w64_succ_lt {k n : Nat} (hk : k < n) (hn : IsInt64 (n : Int)) : w64 ((k : Int) + 1) = ((k + 1 : Nat) : Int) :=
  w64_natCast hn rfl hk

/-! the size `last - first + 1` of a range of positions, as list.go and array.go compute it: `last - first` may be negative -/

theorem isInt64_span {a b n : Nat} (hn : IsInt64 (n : Int)) (ha : a < n) (hb : b ≤ n) :
    IsInt64 ((a : Int) - (b : Int)) ∧ IsInt64 ((a : Int) - (b : Int) + 1) := by
  unfold IsInt64 at *; omega

theorem w64_span {a b n : Nat} (hn : IsInt64 (n : Int)) (ha : a < n) (hb : b ≤ n) :
    w64 (w64 ((a : Int) - (b : Int)) + 1) = (a : Int) - (b : Int) + 1 := by
  rw [w64_id (isInt64_span hn ha hb).1, w64_id (isInt64_span hn ha hb).2]

/-- the size `a - b + 1` of a range of positions is negative or the natural number `a + 1 - b` -/
theorem span_cases (a b : Nat) :
    (a : Int) - (b : Int) + 1 < 0 ∧ a + 1 < b ∨
      ¬ (a : Int) - (b : Int) + 1 < 0 ∧ (a : Int) - (b : Int) + 1 = ((a + 1 - b : Nat) : Int) ∧ b ≤ a + 1 := by
  omega

/-- the bound `… < fuel` of a lemma about a translated loop rules out `fuel = 0` -/
theorem fuel_succ {k fuel : Nat} (h : k < fuel) : ∃ f, fuel = f + 1 := Nat.exists_eq_add_one.mpr (Nat.zero_lt_of_lt h)

/-- A loop `L` over an iterator is the model's recursion `M` over the list as soon as one iteration is one unfolding, given
    that the rest agree.  `inv n s`: what holds of the state `s` when `n` values are to come; `bound`: the fuel an iteration needs. -/
theorem bulkLoop_tie {α σ ρ : Type} (L : Nat → List α → σ → Option (Except Panic ρ)) (M : σ → List α → Option (Except Panic ρ))
    (inv : Nat → σ → Prop) (bound : Nat) (done : ∀ f s, L (f + 1) [] s = M s [])
    (step : ∀ f x xs s, inv (xs.length + 1) s → bound < f → (∀ s', inv xs.length s' → L f xs s' = M s' xs) →
      L (f + 1) (x :: xs) s = M s (x :: xs)) (it : List α) :
    ∀ (s : σ) (fuel : Nat), inv it.length s → bound + it.length < fuel → L fuel it s = M s it := by
  induction it with
  | nil => intro s fuel _ hf; obtain ⟨f, rfl⟩ := fuel_succ hf; exact done f s
  | cons x xs ih =>
    intro s fuel h hf
    obtain ⟨f, rfl⟩ := fuel_succ hf
    have hf : bound + xs.length < f := Nat.lt_of_succ_lt_succ hf
    exact step f x xs s h (Nat.lt_of_add_right_lt hf) fun s' h' => ih s' f h' hf

/-- Go's `/ 2` on a non-negative `int` -/
theorem tdiv2 (a : Nat) : Int.tdiv (a : Int) 2 = ((a / 2 : Nat) : Int) := (Int.ofNat_tdiv a 2).symm

theorem rankInt_ne_gt {a b : Int} : rankInt a b ≠ .gt ↔ a ≤ b := by
  unfold rankInt
  by_cases h1 : a < b <;> by_cases h2 : b < a <;> simp [h1, h2] <;> omega

theorem rankNat_cast (a b : Nat) : rankInt (a : Int) (b : Int) = rankNat a b := by
  simp only [rankInt, rankNat, Int.ofNat_lt]

theorem rankInt_eq_iff {a b : Int} : rankInt a b = .eq ↔ a = b := by
  unfold rankInt
  by_cases h1 : a < b
  · rw [if_pos h1]; exact ⟨Rank.noConfusion, fun e => absurd (e ▸ h1) (Int.lt_irrefl _)⟩
  by_cases h2 : b < a
  · rw [if_neg h1, if_pos h2]; exact ⟨Rank.noConfusion, fun e => absurd (e ▸ h2) (Int.lt_irrefl _)⟩
  · rw [if_neg h1, if_neg h2]
    exact ⟨fun _ => Int.le_antisymm (Int.not_lt.mp h2) (Int.not_lt.mp h1), fun _ => rfl⟩

theorem rankNat_eq_iff {a b : Nat} : rankNat a b = .eq ↔ a = b := by
  rw [← rankNat_cast, rankInt_eq_iff, Int.natCast_inj]

theorem rankInt_total : TotalPreorder rankInt where
  refl a := by simp [rankInt]
  mirror a b := by
    unfold rankInt
    by_cases h1 : a < b <;> by_cases h2 : b < a <;> simp [h1, h2, Rank.flip] <;> omega
  trans a b c := by simp only [rankInt_ne_gt]; exact Int.le_trans

theorem TotalPreorder.comap {α β : Type} {rank : β → β → Rank} (h : TotalPreorder rank) (f : α → β) :
    TotalPreorder (fun a b => rank (f a) (f b)) where
  refl a := h.refl (f a)
  mirror a b := h.mirror (f a) (f b)
  trans a b c := h.trans (f a) (f b) (f c)

theorem TotalPreorder.reverse {α : Type} {rank : α → α → Rank} (h : TotalPreorder rank) :
    TotalPreorder (fun a b => rank b a) where
  refl a := h.refl a
  mirror a b := h.mirror b a
  trans a b c h1 h2 := h.trans c b a h2 h1

namespace TotalPreorder
variable {α : Type} {rank : α → α → Rank} (h : TotalPreorder rank)
include h

theorem gt_iff_lt (a b : α) : rank b a = .gt ↔ rank a b = .lt := by
  rw [h.mirror a b]; cases rank a b <;> simp [Rank.flip]

theorem eq_symm {a b : α} (e : rank a b = .eq) : rank b a = .eq := by
  rw [h.mirror a b, e]; rfl

theorem lt_of_le_of_lt {a b c : α} (h1 : rank a b ≠ .gt) (h2 : rank b c = .lt) : rank a c = .lt := by
  -- otherwise `c ≤ a ≤ b`, against `b < c`
  have hcb : rank c b = .gt := (h.gt_iff_lt b c).mpr h2
  have := h.trans c a b
  rw [h.mirror a c] at this
  cases hc : rank a c <;> simp_all [Rank.flip]

theorem lt_of_lt_of_le {a b c : α} (h1 : rank a b = .lt) (h2 : rank b c ≠ .gt) : rank a c = .lt :=
  h.reverse.lt_of_le_of_lt h2 h1

theorem lt_trans {a b c : α} (h1 : rank a b = .lt) (h2 : rank b c = .lt) : rank a c = .lt :=
  h.lt_of_lt_of_le h1 (by rw [h2]; nofun)

theorem eq_trans {a b c : α} (h1 : rank a b = .eq) (h2 : rank b c = .eq) : rank a c = .eq := by
  -- `a ≤ c` and `c ≤ a`, each by `trans`
  have hac := h.trans a b c (by simp [h1]) (by simp [h2])
  have hca := h.trans c b a (by simp [h.eq_symm h2]) (by simp [h.eq_symm h1])
  rw [h.mirror a c] at hca
  cases hc : rank a c <;> simp_all [Rank.flip]

theorem congr_right {x y : α} (e : rank x y = .eq) (v : α) : rank v x = rank v y := by
  cases hv : rank v x with
  | lt => exact (h.lt_of_lt_of_le hv (by simp [e])).symm
  | eq => exact (h.eq_trans hv e).symm
  | gt =>
    have : rank y x ≠ .gt := by simp [h.eq_symm e]
    exact ((h.gt_iff_lt _ _).mpr (h.lt_of_le_of_lt this ((h.gt_iff_lt _ _).mp hv))).symm

theorem congr_left {x y : α} (e : rank x y = .eq) (v : α) : rank x v = rank y v := by
  rw [h.mirror v x, h.mirror v y, h.congr_right e]

end TotalPreorder

end CM
