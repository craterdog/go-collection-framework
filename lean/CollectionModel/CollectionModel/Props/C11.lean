/-
  C11 — Every sentence of the CDCN grammar is accepted with its intended meaning.

  Proved: the literal-exactness half (an accepted literal is exactly what the standard
  conversion says; a conversion error is a diagnostic, never a replacement value), the
  lexical rules for integers, hexadecimals and keywords for ALL digit strings, and that the
  parse result is a function of the source alone.  The completeness half (every derivation
  of the grammar is accepted and denotes the stated collection) is held by the
  correspondence run over generated derivations, not proved (see DESIGN.md, C11).
-/
import CollectionModel.Model.Cdcn.Parse
import CollectionModel.Lemmas.ScanHeads
namespace CM
open CM.Cdcn

/-- **accepted text is never silently altered**: whenever `parseIntrinsic` accepts a literal,
    the value is exactly the conversion of the token it consumed; if the conversion fails the
    outcome is a diagnostic (or an out-of-range line, impossible by C12_token_line_in_range),
    never a value -/
theorem C11_literal_exact (env : Env) : ∀ (kinds : List TT) (s : PS) (tok0 : Option Token) (v : Val) (tok : Option Token) (s' : PS),
    parseIntrinsic.go env kinds s tok0 = .ok v tok s' → ∃ t, tok = some t ∧ env.conv t = some v
  | [], s, tok0, v, tok, s', h => by simp [parseIntrinsic.go] at h
  | tt :: rest, s, tok0, v, tok, s', h => by
    simp only [parseIntrinsic.go] at h
    cases hp : parseToken env tt none s with
    | ok _ tk s1 =>
      simp only [hp] at h
      cases tk with
      | none => cases h
      | some t =>
        cases hc : env.conv t with
        | none => simp only [hc] at h; simp only [fail] at h; split at h <;> cases h
        | some w => simp only [hc] at h; cases h; exact ⟨t, rfl, hc⟩
    | no tk s1 => simp only [hp] at h; exact C11_literal_exact env rest _ _ v tok s' h
    | diag _ | rt | lib | hang => simp only [hp] at h; cases h

theorem C11_parseIntrinsic_exact (env : Env) (s : PS) (v : Val) (tok : Option Token) (s' : PS)
    (h : parseIntrinsic env s = .ok v tok s') : ∃ t, tok = some t ∧ env.conv t = some v :=
  C11_literal_exact env _ s none v tok s' h

/-- **the result is the same on every run**: the parser's outcome is a function of the token
    stream, and the token stream is a function of the source; the scanner and parser
    goroutines only communicate through one FIFO queue with a single producer and a single
    consumer (C04), so no schedule can change what the parser reads -/
theorem C11_deterministic (env : Env) (src : Src) (f : Nat) :
    ∀ r1 r2, r1 = parseTokens env f (scan src) → r2 = parseTokens env f (scan src) → r1 = r2 :=
  fun _ _ h1 h2 => h1.trans h2.symm

/-- **lexical rule `ordinal`**: a non-zero digit followed by any digits is matched entirely -/
theorem C11_scan_ordinal (d : Nat) (ds rest : List Nat) (hd : isDigit19 d = true) (hds : ∀ c ∈ ds, isDigit c = true)
    (hr : ∀ c, rest.head? = some c → isDigit c = false) :
    mOrdinal (d :: ds ++ rest) = some (1 + ds.length) := by
  simp [mOrdinal, hd, spanLen_all isDigit ds rest hds hr]

/-- **lexical rule `integer`** (`zero | sign? ordinal`), for every digit string -/
theorem C11_scan_integer (sign : Option Nat) (d : Nat) (ds rest : List Nat)
    (hs : ∀ s, sign = some s → isSign s = true) (hd : isDigit19 d = true) (hds : ∀ c ∈ ds, isDigit c = true)
    (hr : ∀ c, rest.head? = some c → isDigit c = false) :
    mInteger (sign.toList ++ d :: ds ++ rest) = some (sign.toList.length + 1 + ds.length) := by
  obtain ⟨hd0, hns⟩ := digit19_not_zero_not_sign hd
  have hord := C11_scan_ordinal d ds rest hd hds hr
  cases sign with
  | none =>
    simp only [Option.toList_none, List.nil_append, List.length_nil, Nat.zero_add]
    have : mInteger (d :: ds ++ rest) = mOrdinal (d :: ds ++ rest) := by
      simp [mInteger, hd0, hns]
    rw [this, hord]
  | some s =>
    have hss := hs s rfl
    have hsr := (isSign_iff s).mp hss
    have hs0 : (s == ch '0') = false := by simp [ch_codes]; omega
    simp only [Option.toList_some, List.cons_append, List.nil_append, List.length_cons, List.length_nil]
    have : mInteger (s :: (d :: ds ++ rest)) = (mOrdinal (d :: ds ++ rest)).map (· + 1) := by
      simp [mInteger, hs0, hss]
    simp only [List.cons_append] at this hord ⊢
    rw [this, hord]; simp; omega

/-- **lexical rule `hexadecimal`**: `0x` followed by one or more lower-case hex digits -/
theorem C11_scan_hex (h : Nat) (hs rest : List Nat) (hh : isHex h = true) (hhs : ∀ c ∈ hs, isHex c = true)
    (hr : ∀ c, rest.head? = some c → isHex c = false) :
    mHex (ch '0' :: ch 'x' :: h :: hs ++ rest) = some (3 + hs.length) := by
  have hspan : spanLen isHex (h :: (hs ++ rest)) = hs.length + 1 :=
    spanLen_all isHex (h :: hs) rest (List.forall_mem_cons.mpr ⟨hh, hhs⟩) hr
  simp only [List.cons_append, mHex, hspan]
  simp; omega

/-- keywords, delimiters and type names are single tokens of the right kind -/
example : (scan ("[true,false,nil](Catalog)".toList.map ch)).map (·.tt) =
    [.delimiter, .boolean, .delimiter, .boolean, .delimiter, .nil, .delimiter, .delimiter, .type, .delimiter, .eof] := by decide

/-- **recorded finding**: `'''` is derivable from the published rule `rune: "'" ~[CONTROL] "'"`
    but the scanner's rune pattern excludes the quote: the sentence is rejected at that rune -/
theorem C11_counterexample_rune_quote :
    ((scan ("[''']".toList.map ch)).map (·.tt)) = [.delimiter, .error, .eof] := by decide

end CM
