/-
  T3 obligations: the integer functions TRANSLATED from the current Go source
  (Generated/Fns.lean, rewritten by /verif/extract on every run) are the model's
  functions, for all integers.  A source change that alters one of them breaks
  the corresponding theorem here.
-/
import CollectionModel.Generated.Fns
import CollectionModel.Model.Iterator
import CollectionModel.Lemmas.SeqLemmas
namespace CM
namespace Tie

theorem w64_neg {n : Int} (hn : IsInt64 n) (h0 : 0 ≤ n) : w64 (-n) = -n :=
  w64_id ⟨Int.neg_le_neg (Int.le_of_lt hn.2), Int.lt_of_le_of_lt (Int.neg_nonpos_of_nonneg h0) (by decide)⟩

/-- `index + size` and `index + size + 1` for `-size ≤ index < 0`, as array.go, list.go and iterator.go compute them -/
theorem w64_fromEnd {n i : Int} (hn : IsInt64 n) (h1 : -n ≤ i) (h2 : i < 0) :
    w64 (i + n) = i + n ∧ w64 (i + n + 1) = i + n + 1 := by
  have : IsInt64 (i + n) ∧ IsInt64 (i + n + 1) := by unfold IsInt64 at *; omega
  exact ⟨w64_id this.1, w64_id this.2⟩

/-- `array_.toZeroBased` and `list_.toNormalized` as written in array.go and list.go are one five-way branch with
    different results at two of its ends: both against `Seq.toZeroBased` in one case analysis -/
theorem index_tie (va : Int → Int) (n : Nat) (slot index : Int) (hn : IsInt64 n) :
    Generated.toZeroBased va n slot index = (Seq.toZeroBased n index).map (fun (p : Nat) => ((p : Int), slot)) ∧
    Generated.toNormalized va n slot index = (Seq.toZeroBased n index).map (fun (p : Nat) => ((p : Int) + 1, slot)) := by
  unfold Generated.toZeroBased Generated.toNormalized Seq.toZeroBased
  simp only [beq_iff_eq, Bool.or_eq_true, decide_eq_true_eq, Int.natCast_eq_zero]
  rw [w64_neg hn (Int.natCast_nonneg n)]
  -- every test stands three times in the goal: in the two generated functions and in the model's
  by_cases h0 : n = 0
  · rw [if_pos h0, if_pos h0, if_pos h0]; exact ⟨rfl, rfl⟩
  rw [if_neg h0, if_neg h0, if_neg h0]
  by_cases h1 : index = 0
  · rw [if_pos h1, if_pos h1, if_pos h1]; exact ⟨rfl, rfl⟩
  rw [if_neg h1, if_neg h1, if_neg h1]
  by_cases h2 : index < -(n : Int) ∨ index > n
  · rw [if_pos h2, if_pos h2, if_pos h2]; exact ⟨rfl, rfl⟩
  rw [if_neg h2, if_neg h2, if_neg h2]
  by_cases h3 : index < 0
  · have hlo : -(n : Int) ≤ index := Int.not_lt.mp fun h => h2 (.inl h)
    obtain ⟨e1, e2⟩ := w64_fromEnd hn hlo h3
    -- `index + n` is not negative here: written as the cast of its `toNat`, which is what the model returns
    rw [if_pos h3, if_pos h3, if_pos h3, e1, e2, ← Int.toNat_of_nonneg (Int.add_nonneg_iff_neg_le.mpr hlo)]
    exact ⟨rfl, rfl⟩
  · have h4 : index > 0 := Int.lt_iff_le_and_ne.mpr ⟨Int.not_lt.mp h3, Ne.symm h1⟩
    obtain ⟨p, rfl⟩ := Int.eq_succ_of_zero_lt h4
    have hp : p + 1 ≤ n := Int.ofNat_le.mp (Int.not_lt.mp fun h => h2 (.inr h))
    rw [if_neg h3, if_neg h3, if_neg h3, if_pos h4, if_pos h4, Int.add_sub_cancel,
      w64_id (hn.natCast_le (Nat.le_of_succ_le hp))]
    exact ⟨rfl, rfl⟩

/-- `array_.toZeroBased` as written in array.go = `Seq.toZeroBased` -/
theorem toZeroBased_tie (va : Int → Int) (n : Nat) (slot index : Int) (hn : IsInt64 n) (hi : IsInt64 index) :
    Generated.toZeroBased va n slot index = (Seq.toZeroBased n index).map (fun (p : Nat) => ((p : Int), slot)) :=
  (index_tie va n slot index hn).1

/-- `list_.toNormalized` as written in list.go = `Seq.toNormalized` -/
theorem toNormalized_tie (va : Int → Int) (n : Nat) (slot index : Int) (hn : IsInt64 n) (hi : IsInt64 index) :
    Generated.toNormalized va n slot index = (Seq.toNormalized n index).map (fun (p : Int) => (p, slot)) := by
  rw [(index_tie va n slot index hn).2, Seq.toNormalized_eq]
  cases Seq.toZeroBased n index <;> rfl

/-! ### iterator: every move as written in iterator.go = the model's `Iter.step` -/
section
variable (s : Iter.St Int)

/-- `values_[k]` of the snapshot -/
def va (s : Iter.St Int) (k : Int) : Int := s.values.getD k.toNat default

theorem iterGetNext_tie (hs : IsInt64 (Iter.size s)) (hp : IsInt64 s.slot) :
    Generated.iterGetNext (va s) (Iter.size s) s.slot =
      .ok (match (Iter.step s .getNext).2 with | .val a => a | _ => 0, (Iter.step s .getNext).1.slot) := by
  unfold Generated.iterGetNext Iter.step
  by_cases h : s.slot < Iter.size s
  · have e1 : w64 (s.slot + 1) = s.slot + 1 :=
      w64_id ⟨Int.le_add_one hp.1, Int.lt_of_le_of_lt (Int.add_one_le_of_lt h) hs.2⟩
    have e2 : w64 s.slot = s.slot := w64_id hp
    simp [h, va, Iter.at1, e1, e2]
  · simp [h]

theorem iterGetPrevious_tie (hp : IsInt64 s.slot) :
    Generated.iterGetPrevious (va s) (Iter.size s) s.slot =
      .ok (match (Iter.step s .getPrevious).2 with | .val a => a | _ => 0, (Iter.step s .getPrevious).1.slot) := by
  unfold Generated.iterGetPrevious Iter.step
  by_cases h : s.slot > 0
  · have e1 : w64 (s.slot - 1) = s.slot - 1 :=
      w64_id ⟨Int.le_trans (by decide) (Int.sub_nonneg_of_le h), Int.lt_trans (Int.sub_one_lt_of_le (Int.le_refl _)) hp.2⟩
    simp [h, va, Iter.at1, e1]
  · simp [h]

theorem iterHasNext_tie :
    Generated.iterHasNext (va s) (Iter.size s) s.slot = .ok (decide (s.slot < Iter.size s), s.slot) ∧
    (Iter.step s .hasNext) = (s, .bool (decide (s.slot < Iter.size s))) := ⟨rfl, rfl⟩

theorem iterHasPrevious_tie :
    Generated.iterHasPrevious (va s) (Iter.size s) s.slot = .ok (decide (s.slot > 0), s.slot) ∧
    (Iter.step s .hasPrevious) = (s, .bool (decide (s.slot > 0))) := ⟨rfl, rfl⟩

theorem iterToStart_tie :
    Generated.iterToStart (va s) (Iter.size s) s.slot = .ok (0, (Iter.step s .toStart).1.slot) := rfl

theorem iterToEnd_tie :
    Generated.iterToEnd (va s) (Iter.size s) s.slot = .ok (0, (Iter.step s .toEnd).1.slot) := rfl

theorem iterToSlot_tie (k : Int) (hs : IsInt64 (Iter.size s)) (hk : IsInt64 k) :
    Generated.iterToSlot (va s) (Iter.size s) s.slot k = .ok (0, (Iter.step s (.toSlot k)).1.slot) := by
  unfold Generated.iterToSlot Iter.step Iter.toSlot
  have hn : (0 : Int) ≤ Iter.size s := Int.natCast_nonneg _
  rw [w64_neg hs hn]
  generalize Iter.size s = n at hn hs ⊢
  simp only [decide_eq_true_eq]
  -- the generated text repeats the later clamps under each branch of the earlier ones; `Iter.toSlot` makes the same
  -- three tests in the same order, so the two are taken apart together, test by test
  by_cases h1 : k > n
  · have h2 : ¬ n < -n := Int.not_lt.mpr (Int.le_trans (Int.neg_nonpos_of_nonneg hn) hn)
    rw [if_pos h1, if_pos h1, if_neg h2, if_neg h2, if_neg (Int.not_lt.mpr hn), if_neg (Int.not_lt.mpr hn)]
  rw [if_neg h1, if_neg h1]
  by_cases h2 : k < -n
  · rw [if_pos h2, if_pos h2]
    by_cases h3 : -n < 0
    · rw [if_pos h3, if_pos h3, Int.add_left_neg]; rfl
    · rw [if_neg h3, if_neg h3]
  rw [if_neg h2, if_neg h2]
  by_cases h3 : k < 0
  · obtain ⟨e1, e2⟩ := w64_fromEnd hs (Int.not_lt.mp h2) h3
    rw [if_pos h3, if_pos h3, e1, e2]
  · rw [if_neg h3, if_neg h3]

theorem iterIsEmpty_tie :
    Generated.iterIsEmpty (va s) (Iter.size s) s.slot = .ok (Iter.size s == 0, s.slot) ∧
    (Iter.step s .isEmpty) = (s, .bool (Iter.size s == 0)) := ⟨rfl, rfl⟩

end
end Tie
end CM
