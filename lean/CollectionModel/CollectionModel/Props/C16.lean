/-
  C16 — Merge, Extract and Concatenate obey their documented laws and are pure.
-/
import CollectionModel.Lemmas.AssocLemmas
namespace CM
open CM.Assoc CM.Seq

variable {K V : Type} [DecidableEq K]

/-- **Concatenate(a, b) is a followed by b** -/
theorem C16_concatenate {α : Type} (a b : List α) : concatenate a b = a ++ b := concatenate_spec a b

/- `C16_merge`'s statement, as elaborated, names the matcher of this lemma (`fold_specSet_lookup.match_1`): the lemma
   keeps its name and the `match` in its statement. -/
theorem fold_specSet_lookup (k : K) (ps acc : List (K × V)) :
    lookup k (ps.foldl (fun acc p => specSet acc p.1 p.2) acc) =
      match lookup k ps.reverse with | some v => some v | none => lookup k acc := by
  simp only [specSet_eq_mset, lookup_foldl_mset]
  cases lookup k ps.reverse <;> rfl

/-- on a first operand with distinct keys Merge is the specification's fold of `b` over `a` -/
theorem catMerge_assocs (a b : List (K × V)) (ha : NodupKeys a) :
    (catMerge a b).assocs = b.foldl (fun acc p => specSet acc p.1 p.2) a := by
  simp only [(catMerge_spec a b).2, mapMakeFrom_fresh ha, specSet_eq_mset]

variable [Inhabited K] [Inhabited V]

/-- **Merge(a, b)**: a's keys in a's order followed by b's new keys in b's order, b's value
    winning for shared keys; the result satisfies the catalog invariant -/
theorem C16_merge (a b : List (K × V)) (ha : NodupKeys a) (hb : NodupKeys b) :
    CatInv (catMerge a b) ∧
    (catMerge a b).assocs.map (·.1) = a.map (·.1) ++ (b.map (·.1)).filter (fun k => !(a.map (·.1)).contains k) ∧
    ∀ k, lookup k (catMerge a b).assocs = match lookup k b with | some v => some v | none => lookup k a := by
  refine ⟨(catMerge_spec a b).1, ?_, fun k => by rw [catMerge_assocs a b ha, fold_specSet_lookup, lookup_reverse b hb]⟩
  simp only [catMerge_assocs a b ha, specSet_eq_mset]
  exact keys_foldl_mset b a hb

omit [Inhabited K] in
theorem lookup_extract_fold (src : List (K × V)) (k : K) : ∀ (ks : List K) (acc : List (K × V)),
    lookup k (ks.foldl (fun m x => if (lookup x src).isSome then mset m x ((lookup x src).getD default) else m) acc) =
      if k ∈ ks then (lookup k src).or (lookup k acc) else lookup k acc
  | [], _ => rfl
  | x :: ks, acc => by
    rw [List.foldl_cons, lookup_extract_fold src k ks]
    by_cases e : k = x
    · subst e
      cases lookup k src <;> simp [lookup_mset]
    · cases lookup x src <;> simp [lookup_mset, e]

/-- **Extract(c, keys)**: in the order of `keys`, exactly the associations of `c` whose keys
    were requested – nothing for a key that `c` does not contain -/
theorem C16_extract (c : List (K × V)) (ks : List K) :
    CatInv (catExtract c ks) ∧
    (∀ k, lookup k (catExtract c ks).assocs = if k ∈ ks then lookup k c else none) ∧
    (catExtract c ks).assocs =
      (ks.filter (fun k => (lookup k c).isSome)).foldl (fun acc k => specSet acc k ((lookup k c).getD default)) [] := by
  have h := catExtract_spec c ks
  refine ⟨h.1, fun k => ?_, ?_⟩
  · rw [h.2, lookup_extract_fold]; simp
  · rw [h.2, List.foldl_filter]; simp only [specSet_eq_mset]

/-- purity in the model: the class functions are functions of the operands' contents (their
    results are new values; the operands, being arguments, cannot change) — also for the same
    catalog passed twice -/
theorem C16_merge_same (a : List (K × V)) (ha : NodupKeys a) :
    ∀ k, lookup k (catMerge a a).assocs = lookup k a := by
  intro k
  rw [(C16_merge a a ha ha).2.2 k]
  cases lookup k a <;> rfl

example : (catExtract [((1 : Int), (0 : Int)), (2, 7)] [9, 2, 1, 2]).assocs = [(2, 7), (1, 0)] := by decide
example : (catMerge [((1 : Int), (11 : Int)), (2, 12)] [(3, 23), (1, 21)]).assocs = [(1, 21), (2, 12), (3, 23)] := by decide

end CM
