/-
  The fragment of Go's semantics that the statement-by-statement translations of
  `/verif/extract` (Generated/Loops*.lean) are written in:

  * `w64` / `u64`: `int` and `uint` arithmetic on a 64-bit platform;
  * `Slice`, `Mem`: a slice is a window (array, offset, length, capacity) on a memory of
    arrays; indexing and re-slicing are bounds-checked (a Go runtime error otherwise),
    `copy` is a memmove of `min(len dst, len src)` values, `make` allocates a fresh
    zero-filled array;
  * `bindE` / `bindO`: sequencing of calls that may panic / may not return.
  Core Lean only.
-/
import CollectionModel.Model.Basic
namespace CM
namespace GoSem

/-- Go's `uint` arithmetic on a 64-bit platform -/
def u64 (x : Int) : Int := x % 18446744073709551616

def IsUint64 (x : Int) : Prop := 0 ≤ x ∧ x < 18446744073709551616

theorem u64_id {x : Int} (h : IsUint64 x) : u64 x = x := by
  unfold u64; unfold IsUint64 at h; omega

theorem u64_natCast {n : Nat} (h : IsInt64 (n : Int)) : u64 (n : Int) = n :=
  u64_id ⟨Int.natCast_nonneg n, Int.lt_trans h.2 (by decide)⟩

/-- sequencing after a call that may panic -/
def bindE {β γ : Type} (x : Except Panic β) (f : β → Option (Except Panic γ)) : Option (Except Panic γ) :=
  match x with
  | .error p => some (.error p)
  | .ok b => f b

/-- sequencing after a call that may panic or not return -/
def bindO {β γ : Type} (x : Option (Except Panic β)) (f : β → Option (Except Panic γ)) : Option (Except Panic γ) :=
  match x with
  | none => none
  | some (.error p) => some (.error p)
  | some (.ok b) => f b

@[simp] theorem bindE_ok {β γ : Type} (b : β) (f : β → Option (Except Panic γ)) : bindE (.ok b) f = f b := rfl
@[simp] theorem bindE_error {β γ : Type} (p : Panic) (f : β → Option (Except Panic γ)) : bindE (.error p) f = some (.error p) := rfl
@[simp] theorem bindO_ok {β γ : Type} (b : β) (f : β → Option (Except Panic γ)) : bindO (some (.ok b)) f = f b := rfl
@[simp] theorem bindO_error {β γ : Type} (p : Panic) (f : β → Option (Except Panic γ)) : bindO (some (.error p)) f = some (.error p) := rfl
@[simp] theorem bindO_none {β γ : Type} (f : β → Option (Except Panic γ)) : bindO none f = none := rfl
theorem bindO_pure {β : Type} (x : Option (Except Panic β)) : bindO x (fun b => some (.ok b)) = x := by
  cases x with
  | none => rfl
  | some e => cases e <;> rfl

/-- a result that is a non-negative `int` (an index computed by a model function over `Nat`) -/
def natResult (x : Except Panic Nat) : Except Panic Int :=
  match x with
  | .ok p => .ok (p : Int)
  | .error e => .error e

@[simp] theorem natResult_ok (p : Nat) : natResult (.ok p) = .ok (p : Int) := rfl
@[simp] theorem natResult_error (e : Panic) : natResult (.error e) = .error e := rfl

/-- a Go slice value: a window on array `arr` -/
structure Slice where
  arr : Nat
  off : Nat
  len : Nat
  cap : Nat
  deriving Repr, DecidableEq

/-- the memory: array id ↦ contents -/
abbrev Mem (α : Type) := List (List α)

variable {α : Type}

/-- contents of array `a` -/
def Mem.arr (m : Mem α) (a : Nat) : List α := m.getD a []

/-- replace the contents of array `a` -/
def Mem.setArr (m : Mem α) (a : Nat) (l : List α) : Mem α := m.set a l

/-- the values a slice shows -/
def Mem.view (m : Mem α) (s : Slice) : List α := ((m.arr s.arr).drop s.off).take s.len

/-- `s[i]` -/
def Mem.read [Inhabited α] (m : Mem α) (s : Slice) (i : Int) : Except Panic α :=
  if 0 ≤ i ∧ i < s.len then .ok ((m.arr s.arr).getD (s.off + i.toNat) default) else .error .rt

/-- `s[i] = v` -/
def Mem.write (m : Mem α) (s : Slice) (i : Int) (v : α) : Except Panic (Mem α) :=
  if 0 ≤ i ∧ i < s.len then .ok (m.setArr s.arr ((m.arr s.arr).set (s.off + i.toNat) v)) else .error .rt

/-- `make([]V, n)`: a length outside the range of `int` is a Go runtime error ("makeslice: len out of range") -/
def Mem.make [Inhabited α] (m : Mem α) (n : Int) : Except Panic (Mem α × Slice) :=
  if 0 ≤ n ∧ n < 9223372036854775808 then .ok (m ++ [List.replicate n.toNat default], ⟨m.length, 0, n.toNat, n.toNat⟩) else .error .rt

/-- `s[lo:hi]` -/
def Slice.sub (s : Slice) (lo hi : Int) : Except Panic Slice :=
  if 0 ≤ lo ∧ lo ≤ hi ∧ hi ≤ s.cap then .ok ⟨s.arr, s.off + lo.toNat, (hi - lo).toNat, s.cap - lo.toNat⟩ else .error .rt

/-- `copy(dst, src)`: the source values are read before anything is written (memmove) -/
def Mem.copy (m : Mem α) (dst src : Slice) : Mem α :=
  let n := min dst.len src.len
  let data := (m.view src).take n
  let a := m.arr dst.arr
  m.setArr dst.arr (a.take dst.off ++ data ++ a.drop (dst.off + data.length))

/-- `make([]V, n)` seen as a value (`Array.Make(size uint)`): a length beyond the range of `int` is a Go runtime
    error ("makeslice: len out of range") -/
def makeArray [Inhabited α] (n : Int) : Except Panic (List α) :=
  if 0 ≤ n ∧ n < 9223372036854775808 then .ok (List.replicate n.toNat default) else .error .rt

/-- a fresh array holding the given values (what `AsArray()` of an operand hands out) -/
def Mem.alloc (m : Mem α) (l : List α) : Mem α × Slice := (m ++ [l], ⟨m.length, 0, l.length, l.length⟩)

/-- a slice lies inside its array -/
def Mem.Wf (m : Mem α) (s : Slice) : Prop :=
  s.arr < m.length ∧ s.len ≤ s.cap ∧ s.off + s.cap ≤ (m.arr s.arr).length

end GoSem
end CM
