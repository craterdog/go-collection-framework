/-
  Soundness of the collator model with respect to the canonical ordered domain: whenever `rank`
  returns on values of the universe `U` (no Go maps, no complex numbers) it returns
  `cmpT (enc a) (enc b)`, and whenever `cmp` returns it says whether `enc a = enc b`.
-/
import CollectionModel.Model.Collator
import CollectionModel.Lemmas.OrderT
namespace CM
namespace Coll

/-- `Val.tcode` of a `.coll` of the class, plus 1 -/
def ckTag : CK → Nat
  | .catalog => 6 | .list => 7 | .queue => 9 | .set => 10 | .stack => 11

mutual
/-- embedding of values into the canonical ordered domain (tag = type-name position + 1, undef = 0) -/
def enc : Val → T
  | .undef => .leaf 0 []
  | .bool b => .leaf 2 [if b then 1 else 0]
  | .byte n => .leaf 3 [(n : Int)]
  | .uns n => .leaf 18 [(n : Int)]
  | .int i => .leaf 14 [i]
  | .rune i => .leaf 16 [i]
  | .flt .nan => .leaf 13 [0]
  | .flt (.num k) => .leaf 13 [1, k]
  | .cpx _ => .leaf 12 []
  | .str s => .leaf 17 (s.map (fun (n : Nat) => (n : Int)))
  | .arr cls true _ => .leaf (if cls then 4 else 1) []
  | .arr cls false xs => .node (if cls then 4 else 1) (encList xs)
  | .gomap cls _ _ => .leaf (if cls then 8 else 15) []
  | .coll k xs => .node (ckTag k) (encList xs)
  | .assoc k v => .node 5 [enc k, enc v]
def encList : List Val → List T
  | [] => []
  | x :: xs => enc x :: encList xs
end

mutual
/-- the universe of the proved theorems: no Go map and no complex number anywhere inside -/
def inU : Val → Bool
  | .cpx _ => false
  | .gomap _ _ _ => false
  | .arr _ _ xs => inUList xs
  | .coll _ xs => inUList xs
  | .assoc k v => inU k && inU v
  | _ => true
def inUList : List Val → Bool
  | [] => true
  | x :: xs => inU x && inUList xs
end

def isUndef : Val → Bool
  | .undef => true
  | _ => false

theorem enc_tag {a : Val} (h : a ≠ .undef) : (enc a).tag = a.tcode + 1 := by
  cases a with
  | undef => exact absurd rfl h
  | flt f => cases f <;> rfl
  | arr cls n xs => cases cls <;> cases n <;> rfl
  | gomap cls n es => cases cls <;> rfl
  | coll k xs => cases k <;> rfl
  | _ => rfl

theorem encList_eq_map (xs : List Val) : encList xs = xs.map enc := by
  induction xs with
  | nil => rfl
  | cons x xs ih => simp [encList, ih]

theorem rankBool_enc (x y : Bool) : rankBool x y = cmpT (enc (.bool x)) (enc (.bool y)) := by
  cases x <;> cases y <;> rfl

theorem rankBytes_lex : ∀ a b : List Nat, rankBytes a b = lexRank rankInt (a.map (fun (n : Nat) => (n : Int))) (b.map (fun (n : Nat) => (n : Int)))
  | [], [] => rfl
  | [], _ :: _ => rfl
  | _ :: _, [] => rfl
  | x :: xs, y :: ys => by
    rw [List.map_cons, List.map_cons, lexRank_cons, rankNat_cast, ← rankBytes_lex xs ys, rankBytes]
    cases rankNat x y <;> rfl

/- NaN is `[0]` and a number `[1, key]`: the first entry puts NaN before the numbers, the second orders them -/
theorem rankFl_enc : ∀ x y : Fl, rankFl x y = cmpT (enc (.flt x)) (enc (.flt y))
  | .nan, .nan | .nan, .num _ | .num _, .nan => rfl
  | .num a, .num b => by
    show rankInt a b = cmpT (.leaf 13 [1, a]) (.leaf 13 [1, b])
    rw [cmpT_leaf, lexRank_cons, rankInt_lawful.refl, lex2_eq_left, lexRank_single]

/-- the kinds without parts, each with what `rank` and `cmp` answer on two values of the kind -/
inductive SameLeaf : Val → Val → Rank → Bool → Prop
  | undef : SameLeaf .undef .undef .eq true
  | bool (x y) : SameLeaf (.bool x) (.bool y) (rankBool x y) (x == y)
  | byte (x y) : SameLeaf (.byte x) (.byte y) (rankNat x y) (x == y)
  | uns (x y) : SameLeaf (.uns x) (.uns y) (rankNat x y) (x == y)
  | int (x y) : SameLeaf (.int x) (.int y) (rankInt x y) (x == y)
  | rune (x y) : SameLeaf (.rune x) (.rune y) (rankInt x y) (x == y)
  | flt (x y) : SameLeaf (.flt x) (.flt y) (rankFl x y) (rankFl x y == .eq)
  | cpx (x y) : SameLeaf (.cpx x) (.cpx y) (rankCx x y) (eqCx x y)
  | str (x y) : SameLeaf (.str x) (.str y) (rankBytes x y) (x == y)

inductive SameKind : Val → Val → Prop
  | arr (c n1 xs n2 ys) : SameKind (.arr c n1 xs) (.arr c n2 ys)
  | gomap (c n1 ea n2 eb) : SameKind (.gomap c n1 ea) (.gomap c n2 eb)
  | coll (k xs ys) : SameKind (.coll k xs) (.coll k ys)
  | assoc (k1 v1 k2 v2) : SameKind (.assoc k1 v1) (.assoc k2 v2)
  | leaf {a b : Val} {r : Rank} {v : Bool} (h : SameLeaf a b r v) : SameKind a b

/-- every tag has one shape; the tags are numerals, so `cases` on two views with the same tag
    leaves the pairs of one shape -/
inductive KindOf : Nat → Val → Prop
  | undef : KindOf 0 .undef
  | bool (x) : KindOf 2 (.bool x)
  | byte (x) : KindOf 3 (.byte x)
  | uns (x) : KindOf 18 (.uns x)
  | int (x) : KindOf 14 (.int x)
  | rune (x) : KindOf 16 (.rune x)
  | flt (x) : KindOf 13 (.flt x)
  | cpx (x) : KindOf 12 (.cpx x)
  | str (x) : KindOf 17 (.str x)
  | arr0 (n xs) : KindOf 1 (.arr false n xs)
  | arr1 (n xs) : KindOf 4 (.arr true n xs)
  | map0 (n es) : KindOf 15 (.gomap false n es)
  | map1 (n es) : KindOf 8 (.gomap true n es)
  | catalog (xs) : KindOf 6 (.coll .catalog xs)
  | list (xs) : KindOf 7 (.coll .list xs)
  | queue (xs) : KindOf 9 (.coll .queue xs)
  | set (xs) : KindOf 10 (.coll .set xs)
  | stack (xs) : KindOf 11 (.coll .stack xs)
  | assoc (k v) : KindOf 5 (.assoc k v)

theorem kindOf (a : Val) : KindOf (enc a).tag a := by
  rcases a with _|_|_|_|_|_|⟨_|_⟩|_|_|⟨_|_,_|_,_⟩|⟨_|_,_,_⟩|⟨_|_|_|_|_,_⟩|_ <;> constructor

theorem sameKind_of_tag_eq {a b : Val} (h : (enc a).tag = (enc b).tag) : SameKind a b := by
  have ka := kindOf a
  have kb := kindOf b
  rw [← h] at kb
  generalize (enc a).tag = t at ka kb
  -- two values without parts, or one of the four kinds with parts
  cases ka <;> cases kb <;> first | exact .leaf (by constructor) | constructor

section equations
variable {max f d : Nat}

/- In the next two proofs `split` goes through the first `match` of `rank` / `cmp` (both undefined, the first, the
   second, neither); an arm holds, unnamed, the facts that the earlier arms did not apply, of the form `_ ≠ .undef`. -/

/-- values of different kinds are ranked by kind, whatever they hold; an undefined one is of kind 0 -/
theorem rank_of_tag_ne {a b : Val} (h : (enc a).tag ≠ (enc b).tag) :
    rank max (f+1) d a b = .ok (rankNat (enc a).tag (enc b).tag) := by
  unfold rank
  split
  · exact absurd rfl h
  · rw [enc_tag ‹b ≠ .undef›]; rfl
  · rw [enc_tag ‹a ≠ .undef›]; rfl
  · rw [enc_tag ‹a ≠ .undef›, enc_tag ‹b ≠ .undef›] at h ⊢
    rw [if_pos (fun e => h (congrArg _ e))]
    simp only [rankNat, Nat.add_lt_add_iff_right]

theorem cmp_of_tag_ne {a b : Val} (h : (enc a).tag ≠ (enc b).tag) : cmp max (f+1) d a b = .ok false := by
  unfold cmp
  split
  · exact absurd rfl h
  · rfl
  · rfl
  · rw [enc_tag ‹a ≠ .undef›, enc_tag ‹b ≠ .undef›] at h
    rw [if_pos (fun e => h (congrArg _ e))]

theorem rank_leaf {a b : Val} {r : Rank} {v : Bool} (h : SameLeaf a b r v) : rank max (f+1) d a b = .ok r := by
  unfold rank; cases h <;> rfl
theorem cmp_leaf {a b : Val} {r : Rank} {v : Bool} (h : SameLeaf a b r v) : cmp max (f+1) d a b = .ok v := by
  unfold cmp; cases h <;> rfl
theorem rank_arr (c n1 xs n2 ys) : rank max (f+1) d (.arr c n1 xs) (.arr c n2 ys) =
    if n1 then (if n2 then .ok .eq else .ok .lt) else if n2 then .ok .gt else rankArr max f d xs ys := by
  unfold rank; cases c <;> rfl
theorem rank_coll (k xs ys) : rank max (f+1) d (.coll k xs) (.coll k ys) = rankArr max f d xs ys := by
  unfold rank; cases k <;> rfl
theorem rank_assoc (k1 v1 k2 v2) : rank max (f+1) d (.assoc k1 v1) (.assoc k2 v2) =
    match rank max f d k1 k2 with
    | .ok .eq => rank max f d v1 v2
    | r => r := by rw [rank.eq_def]; rfl

theorem rankArr_succ (xs ys : List Val) : rankArr max (f+1) d xs ys =
    if d = max then .depth else if xs.length > ys.length then flipOut (rankPrefix max f d ys xs)
    else rankPrefix max f d xs ys := by unfold rankArr; rfl
theorem rankPrefix_cons (x xs y ys) : rankPrefix max (f+1) d (x :: xs) (y :: ys) =
    match rank max f (d+1) x y with
    | .ok .eq => rankPrefix max f d xs ys
    | r => r := by rw [rankPrefix]; rfl

theorem cmp_arr (c n1 xs n2 ys) : cmp max (f+1) d (.arr c n1 xs) (.arr c n2 ys) =
    if n1 then .ok n2 else if n2 then .ok false else cmpArr max f d xs ys := by
  unfold cmp; cases c <;> rfl
theorem cmp_coll (k xs ys) : cmp max (f+1) d (.coll k xs) (.coll k ys) = cmpArr max f d xs ys := by
  unfold cmp; cases k <;> rfl
theorem cmp_assoc (k1 v1 k2 v2) : cmp max (f+1) d (.assoc k1 v1) (.assoc k2 v2) =
    match cmp max f d k1 k2 with
    | .ok true => cmp max f d v1 v2
    | r => r := by rw [cmp.eq_def]; rfl

theorem cmpArr_succ (xs ys : List Val) : cmpArr max (f+1) d xs ys =
    if d = max then .depth else if xs.length ≠ ys.length then .ok false else cmpList max f d xs ys := by
  unfold cmpArr; rfl
theorem cmpList_cons (x xs y ys) : cmpList max (f+1) d (x :: xs) (y :: ys) =
    match cmp max f (d+1) x y with
    | .ok true => cmpList max f d xs ys
    | r => r := by rw [cmpList]; rfl

end equations

theorem SameLeaf.sound {a b : Val} {r : Rank} {v : Bool} (h : SameLeaf a b r v) (ha : inU a = true) :
    r = cmpT (enc a) (enc b) ∧ (v = true ↔ enc a = enc b) := by
  -- `enc` of a value without parts reduces to a leaf; the `show`s spell out the images that are not one integer
  cases h with
  | undef => exact ⟨rfl, iff_of_true rfl rfl⟩
  | bool x y =>
    refine ⟨rankBool_enc x y, ?_⟩
    show _ ↔ T.leaf 2 [if x then 1 else 0] = T.leaf 2 [if y then 1 else 0]
    rw [T.leaf_single_inj]; cases x <;> cases y <;> decide
  | byte x y | uns x y =>
    exact ⟨(rankNat_cast x y).symm.trans (cmpT_single _ x y).symm,
      beq_iff_eq.trans (Int.natCast_inj.symm.trans T.leaf_single_inj.symm)⟩
  | int x y | rune x y => exact ⟨(cmpT_single _ x y).symm, beq_iff_eq.trans T.leaf_single_inj.symm⟩
  | flt x y => exact ⟨rankFl_enc x y, by rw [beq_iff_eq, rankFl_enc, cmpT_eq_iff]⟩
  | cpx x y => cases ha
  | str x y =>
    refine ⟨(rankBytes_lex x y).trans (cmpT_leaf 17 _ _).symm, ?_⟩
    show _ ↔ T.leaf 17 (x.map _) = T.leaf 17 (y.map _)
    simp [List.map_inj_right (fun _ _ e => Int.natCast_inj.mp e)]

theorem flipOut_ok {o : Out Rank} {r : Rank} (h : flipOut o = .ok r) : o = .ok r.flip := by
  cases o <;> cases h; simp [Rank.flip_flip]

theorem lexOut_sound {o1 o2 : Out Rank} {s1 s2 r : Rank}
    (h1 : ∀ r, o1 = .ok r → r = s1) (h2 : ∀ r, o2 = .ok r → r = s2)
    (h : (match o1 with | .ok .eq => o2 | r => r) = .ok r) : r = lex2 s1 s2 := by
  cases o1 with
  | ok r1 =>
    have e := h1 r1 rfl; subst e
    cases r1 with
    | eq => exact h2 r h
    | lt => cases h; rfl
    | gt => cases h; rfl
  | depth => cases h
  | hang => cases h

theorem andOut_sound {o1 o2 : Out Bool} {p1 p2 : Prop} {v : Bool}
    (h1 : ∀ v, o1 = .ok v → (v = true ↔ p1)) (h2 : ∀ v, o2 = .ok v → (v = true ↔ p2))
    (h : (match o1 with | .ok true => o2 | r => r) = .ok v) : v = true ↔ p1 ∧ p2 := by
  cases o1 with
  | ok v1 =>
    have e1 := h1 v1 rfl
    cases v1
    · cases h; simp [← e1]
    · simp [← e1, h2 v h]
  | depth => cases h
  | hang => cases h

/-- `rank`, `rankArr` and `rankPrefix` call one another with less fuel, so the three are proved together -/
theorem rank_sound_at (max f : Nat) :
    (∀ (d : Nat) (a b : Val) (r : Rank), inU a = true → inU b = true →
      rank max f d a b = .ok r → r = cmpT (enc a) (enc b)) ∧
    (∀ (d : Nat) (xs ys : List Val) (r : Rank), inUList xs = true → inUList ys = true →
      rankArr max f d xs ys = .ok r → r = cmpTs (encList xs) (encList ys)) ∧
    (∀ (d : Nat) (xs ys : List Val) (r : Rank), inUList xs = true → inUList ys = true →
      rankPrefix max f d xs ys = .ok r → r = cmpTs (encList xs) (encList ys)) := by
  induction f with
  | zero =>
    refine ⟨fun _ _ _ _ _ _ h => ?_, fun _ _ _ _ _ _ h => ?_, fun _ _ _ _ _ _ h => ?_⟩
    · unfold rank at h; cases h
    · unfold rankArr at h; cases h
    · unfold rankPrefix at h; cases h
  | succ f ih =>
    obtain ⟨rank_sound, rankArr_sound, rankPrefix_sound⟩ := ih
    refine ⟨fun d a b r ha hb h => ?_, fun d xs ys r ha hb h => ?_, fun d xs ys r ha hb h => ?_⟩
    · by_cases ht : (enc a).tag = (enc b).tag
      · cases sameKind_of_tag_eq ht with
        | leaf hl => rw [rank_leaf hl] at h; cases h; exact (hl.sound ha).1
        | gomap c n1 ea n2 eb => cases ha
        | arr c n1 xs n2 ys =>
          rw [rank_arr] at h
          cases n1 <;> cases n2
          · exact (rankArr_sound d xs ys r ha hb h).trans (cmpT_node _ _ _).symm
          -- a nil slice is a leaf: equal to a nil one, below a node of its tag
          all_goals cases h; symm; exact cmpT_of_tag_eq (by rfl)
        | coll k xs ys =>
          rw [rank_coll] at h
          exact (rankArr_sound d xs ys r ha hb h).trans (cmpT_node _ _ _).symm
        | assoc k1 v1 k2 v2 =>
          -- `inU (.assoc k v)` is `inU k && inU v` by definition
          obtain ⟨hk1, hv1⟩ := Bool.and_eq_true_iff.mp ha
          obtain ⟨hk2, hv2⟩ := Bool.and_eq_true_iff.mp hb
          rw [rank_assoc] at h
          show r = cmpT (.node 5 [enc k1, enc v1]) (.node 5 [enc k2, enc v2])
          rw [cmpT_node, cmpTs_cons, cmpTs_cons, cmpTs_nil, lex2_eq_right]
          exact lexOut_sound (fun r => rank_sound d k1 k2 r hk1 hk2) (fun r => rank_sound d v1 v2 r hv1 hv2) h
      · rw [rank_of_tag_ne ht] at h; cases h
        exact (cmpT_of_tag_ne ht).symm
    · rw [rankArr_succ] at h
      by_cases hd : d = max
      · rw [if_pos hd] at h; cases h
      rw [if_neg hd] at h
      by_cases hlen : xs.length > ys.length
      · -- the longer first: ranked the other way round and mirrored
        rw [if_pos hlen] at h
        have := rankPrefix_sound d ys xs r.flip hb ha (flipOut_ok h)
        rw [cmpTs_eq_lex] at this ⊢
        rw [(lexRank_lawful cmpT_lawful).mirror (encList ys) (encList xs), ← this, Rank.flip_flip]
      · rw [if_neg hlen] at h
        exact rankPrefix_sound d xs ys r ha hb h
    · cases xs with
      | nil => unfold rankPrefix at h; cases ys <;> cases h <;> rfl
      | cons x xs =>
        cases ys with
        | nil => unfold rankPrefix at h; cases h; rfl
        | cons y ys =>
          obtain ⟨hx, hxs⟩ := Bool.and_eq_true_iff.mp ha
          obtain ⟨hy, hys⟩ := Bool.and_eq_true_iff.mp hb
          rw [rankPrefix_cons] at h
          exact (lexOut_sound (fun r => rank_sound (d+1) x y r hx hy)
            (fun r => rankPrefix_sound d xs ys r hxs hys) h).trans (cmpTs_cons ..).symm

theorem rank_sound (max : Nat) : ∀ (f d : Nat) (a b : Val) (r : Rank), inU a = true → inU b = true →
    rank max f d a b = .ok r → r = cmpT (enc a) (enc b) := fun f => (rank_sound_at max f).1

theorem rankArr_sound (max : Nat) : ∀ (f d : Nat) (xs ys : List Val) (r : Rank), inUList xs = true → inUList ys = true →
    rankArr max f d xs ys = .ok r → r = cmpTs (encList xs) (encList ys) := fun f => (rank_sound_at max f).2.1

theorem rankPrefix_sound (max : Nat) : ∀ (f d : Nat) (xs ys : List Val) (r : Rank), inUList xs = true → inUList ys = true →
    rankPrefix max f d xs ys = .ok r → r = cmpTs (encList xs) (encList ys) := fun f => (rank_sound_at max f).2.2

theorem cmp_iff_enc_eq_at (max f : Nat) :
    (∀ (d : Nat) (a b : Val) (v : Bool), inU a = true → inU b = true →
      cmp max f d a b = .ok v → (v = true ↔ enc a = enc b)) ∧
    (∀ (d : Nat) (xs ys : List Val) (v : Bool), inUList xs = true → inUList ys = true →
      cmpArr max f d xs ys = .ok v → (v = true ↔ encList xs = encList ys)) ∧
    (∀ (d : Nat) (xs ys : List Val) (v : Bool), inUList xs = true → inUList ys = true →
      cmpList max f d xs ys = .ok v → xs.length = ys.length → (v = true ↔ encList xs = encList ys)) := by
  induction f with
  | zero =>
    refine ⟨fun _ _ _ _ _ _ h => ?_, fun _ _ _ _ _ _ h => ?_, fun _ _ _ _ _ _ h => ?_⟩
    · unfold cmp at h; cases h
    · unfold cmpArr at h; cases h
    · unfold cmpList at h; cases h
  | succ f ih =>
    obtain ⟨cmp_iff_enc_eq, cmpArr_iff_enc_eq, cmpList_iff_enc_eq⟩ := ih
    refine ⟨fun d a b v ha hb h => ?_, fun d xs ys v ha hb h => ?_, fun d xs ys v ha hb h hl => ?_⟩
    · by_cases ht : (enc a).tag = (enc b).tag
      · cases sameKind_of_tag_eq ht with
        | leaf hl => rw [cmp_leaf hl] at h; cases h; exact (hl.sound ha).2
        | gomap c n1 ea n2 eb => cases ha
        | arr c n1 xs n2 ys =>
          rw [cmp_arr] at h
          cases n1 <;> cases n2
          · exact (cmpArr_iff_enc_eq d xs ys v ha hb h).trans T.node_inj.symm
          -- a nil slice is a leaf whatever it holds
          all_goals cases h; first | exact iff_of_true rfl rfl | exact ⟨Bool.noConfusion, T.noConfusion⟩
        | coll k xs ys =>
          rw [cmp_coll] at h
          exact (cmpArr_iff_enc_eq d xs ys v ha hb h).trans T.node_inj.symm
        | assoc k1 v1 k2 v2 =>
          obtain ⟨hk1, hv1⟩ := Bool.and_eq_true_iff.mp ha
          obtain ⟨hk2, hv2⟩ := Bool.and_eq_true_iff.mp hb
          rw [cmp_assoc] at h
          show v = true ↔ T.node 5 [enc k1, enc v1] = T.node 5 [enc k2, enc v2]
          simp only [T.node.injEq, true_and, List.cons.injEq, and_true]
          exact andOut_sound (fun v => cmp_iff_enc_eq d k1 k2 v hk1 hk2) (fun v => cmp_iff_enc_eq d v1 v2 v hv1 hv2) h
      · rw [cmp_of_tag_ne ht] at h; cases h
        exact ⟨Bool.noConfusion, fun e => absurd (congrArg T.tag e) ht⟩
    · rw [cmpArr_succ] at h
      by_cases hd : d = max
      · rw [if_pos hd] at h; cases h
      rw [if_neg hd] at h
      by_cases hlen : xs.length = ys.length
      · rw [if_neg (not_not_intro hlen)] at h
        exact cmpList_iff_enc_eq d xs ys v ha hb h hlen
      · rw [if_pos hlen] at h; cases h
        exact ⟨Bool.noConfusion, fun e => absurd (by simpa only [encList_eq_map, List.length_map] using congrArg List.length e) hlen⟩
    · cases xs with
      | nil =>
        cases ys with
        | nil => unfold cmpList at h; cases h; exact iff_of_true rfl rfl
        | cons y ys => cases hl
      | cons x xs =>
        cases ys with
        | nil => cases hl
        | cons y ys =>
          obtain ⟨hx, hxs⟩ := Bool.and_eq_true_iff.mp ha
          obtain ⟨hy, hys⟩ := Bool.and_eq_true_iff.mp hb
          rw [cmpList_cons] at h
          exact (andOut_sound (fun v => cmp_iff_enc_eq (d+1) x y v hx hy)
            (fun v e => cmpList_iff_enc_eq d xs ys v hxs hys e (Nat.succ.inj hl)) h).trans List.cons_eq_cons.symm

theorem cmp_iff_enc_eq (max : Nat) : ∀ (f d : Nat) (a b : Val) (v : Bool), inU a = true → inU b = true →
    cmp max f d a b = .ok v → (v = true ↔ enc a = enc b) := fun f => (cmp_iff_enc_eq_at max f).1

theorem cmpArr_sound (max : Nat) : ∀ (f d : Nat) (xs ys : List Val) (v : Bool), inUList xs = true → inUList ys = true →
    cmpArr max f d xs ys = .ok v → v = (cmpTs (encList xs) (encList ys) == .eq) := by
  intro f d xs ys v ha hb h
  rw [Bool.eq_iff_iff, (cmp_iff_enc_eq_at max f).2.1 d xs ys v ha hb h, beq_iff_eq, cmpTs_eq_iff]

theorem cmpList_sound (max : Nat) : ∀ (f d : Nat) (xs ys : List Val) (v : Bool), inUList xs = true → inUList ys = true →
    cmpList max f d xs ys = .ok v → xs.length = ys.length → v = (cmpTs (encList xs) (encList ys) == .eq) := by
  intro f d xs ys v ha hb h hl
  rw [Bool.eq_iff_iff, (cmp_iff_enc_eq_at max f).2.2 d xs ys v ha hb h hl, beq_iff_eq, cmpTs_eq_iff]

end Coll
end CM
