/-
  C10 — **the round trip, proved on the composition of the three executable models**
  (formatter → scanner → parser): for every value of the canonical universe within the
  formatter's depth limit, nested and wide without bound,

      ParseSource (FormatValue v) = v.

  `Canon` (Lemmas/RoundTrip.lean) is the explicit, structural well-formedness predicate: the
  value is what the parser builds (Arrays, Lists, Queues, Stacks of values; Sets as
  `Set.MakeFromSequence` orders them; Catalogs and Maps of associations with distinct leaf
  keys), and every collection in it sits above the depth at which the formatter elides.
  `LeafLex` is the contract of the externals (`strconv` formatting and parsing of leaves): a
  leaf's text is one literal token wherever the formatter puts it – before `]`, a newline or
  `:` – and the conversion oracle maps that token back to the leaf.  The correspondence run
  checks this contract on every leaf text the real formatter produces.

  Chain: `rt_all` (the scanner model reads the formatter model's text as the tokens of a
  syntax tree whose meaning is `v`), then `C11_sentence_accepted` (every syntax tree is
  parsed to its meaning), with the fuel and push-back capacity the driver uses.
-/
import CollectionModel.Lemmas.RoundTripLex
import CollectionModel.Props.C11Complete
namespace CM
open CM.Cdcn

/-- **C10 round trip.**  Parsing the text the formatter writes for a canonical collection
    gives exactly that collection back – same kinds, element order, key/value pairing and
    leaves – for every width and nesting below the depth limit. -/
theorem C10_roundtrip (leafText : Val → Option (List Nat)) (max stackSize : Nat) (hcap : 3 < stackSize)
    (conv : Token → Option Val) (mkSet : List Val → Option Val) (v : Val) (fuel : Nat) (text : List Nat)
    (hl : LeafLex leafText conv) (hcanon : Canon mkSet max 0 v) (hcoll : isCollVal v = true)
    (hfmt : formatValue leafText max fuel v = .ok text) :
    parseTokens { stackSize := stackSize, nlines := (text.filter (· == 10)).length + 1, conv := conv, mkSet := mkSet }
      (8 * (scan text).length + 16) (scan text) = .value v := by
  unfold formatValue at hfmt
  obtain ⟨t0, h0, rfl⟩ := bind_ok_ok hfmt
  let env : Env := { stackSize := stackSize, nlines := ((t0 ++ [10]).filter (· == 10)).length + 1, conv := conv, mkSet := mkSet }
  have hna : isAssocVal v = false := by
    cases v with
    | assoc => exact Bool.noConfusion hcoll
    | _ => rfl
  obtain ⟨_, hlex⟩ := (rt_all (env := env) (max := max) hl fuel).1 v 0 t0 hcanon hna h0
  obtain ⟨S, lc', e1, hSg, hSm, hSc⟩ := hlex [10] (1, 1) (term_eol [])
  -- the final newline is one EOL token, and the end
  obtain ⟨e, eof, he, heof, e2⟩ : ∃ e eof, isEol e = true ∧ eof.tt = .eof ∧ scanFrom [10] lc' = [e, eof] :=
    ⟨⟨.eol, [10], lc'.1, lc'.2⟩, ⟨.eof, [], (advance lc' [10]).1, (advance lc' [10]).2⟩, rfl, rfl,
      (scanFrom_token 10 [] lc' .eol 1 (match_eol _) Nat.one_pos (by decide)).trans rfl⟩
  have hscan : scan (t0 ++ [10]) = S.toks ++ ([e] ++ [eof]) := by
    rw [scan_eq_scanFrom, e1, e2]; rfl
  cases S with
  | lit tok => exact absurd (hSc hcoll) Bool.false_ne_true
  | coll lb items rb lp ty rp =>
    exact C11_sentence_accepted (t0 ++ [10]) stackSize hcap conv mkSet lb items rb lp ty rp [e] eof v hSg hSm
      (fun x hx => List.mem_singleton.mp hx ▸ he) heof hscan

/-- consequently the text is a fixpoint: formatting what was parsed back gives the same text -/
theorem C10_text_fixpoint (leafText : Val → Option (List Nat)) (max stackSize : Nat) (hcap : 3 < stackSize)
    (conv : Token → Option Val) (mkSet : List Val → Option Val) (v : Val) (fuel : Nat) (text : List Nat)
    (hl : LeafLex leafText conv) (hcanon : Canon mkSet max 0 v) (hcoll : isCollVal v = true)
    (hfmt : formatValue leafText max fuel v = .ok text) :
    ∃ v', parseTokens { stackSize := stackSize, nlines := (text.filter (· == 10)).length + 1, conv := conv, mkSet := mkSet }
      (8 * (scan text).length + 16) (scan text) = .value v' ∧ formatValue leafText max fuel v' = .ok text :=
  ⟨v, C10_roundtrip leafText max stackSize hcap conv mkSet v fuel text hl hcanon hcoll hfmt, hfmt⟩

/-! ### the hypotheses are satisfiable: a complete instance -/

/-- a tiny notation of booleans: `true` and `false` written as the real formatter writes them -/
def boolText : Val → Option (List Nat)
  | .bool true => some (str "true")
  | .bool false => some (str "false")
  | _ => none
def boolConv (t : Token) : Option Val :=
  if t.value = str "true" then some (.bool true) else if t.value = str "false" then some (.bool false) else none

theorem boolLex : LeafLex boolText boolConv := by
  obtain ⟨ef, et⟩ := bool_strs
  refine ⟨fun leaf t ht => ?_⟩
  cases leaf with
  | bool b =>
    cases b with
    | false =>
      injection ht with ht; subst ht
      exact ⟨.boolean, rfl, fun rest _ => by rw [ef]; exact (matchToken_one _ _ rfl).trans (by rw [mBoolean_eq]; rfl),
        fun _ _ => by simp [boolConv, et, ef]⟩
    | true =>
      injection ht with ht; subst ht
      exact ⟨.boolean, rfl, fun rest _ => by rw [et]; exact (matchToken_one _ _ rfl).trans (by rw [mBoolean_eq]; rfl),
        fun _ _ => by simp [boolConv, et]⟩
  | _ => cases ht

/-- a Catalog-free instance with nesting: `[[true, false](List) , [](Stack)]`-like value -/
def sampleValue : Val := .coll .list [.coll .list [.bool true, .bool false], .coll .stack [], .bool true]

theorem sampleValue_canon : Canon (fun _ => none) 8 0 sampleValue := by
  simp only [sampleValue, Canon, CanonList, CollOk]; decide

example : Canon (fun _ => none) 8 0 sampleValue := sampleValue_canon

example : ∃ text, formatValue boolText 8 100 sampleValue = .ok text ∧
    parseTokens { stackSize := 4, nlines := (text.filter (· == 10)).length + 1, conv := boolConv, mkSet := fun _ => none }
      (8 * (scan text).length + 16) (scan text) = .value sampleValue := by
  cases hf : formatValue boolText 8 100 sampleValue with
  | ok text =>
    exact ⟨text, rfl, C10_roundtrip boolText 8 4 (by decide) boolConv _ sampleValue 100 text boolLex
      sampleValue_canon rfl hf⟩
  | lib => exact absurd hf (by decide)
  | hang => exact absurd hf (by decide)

end CM
