/-
  A canonical ordered domain `T` (tagged trees with integer-list leaves) whose
  comparison `cmpT` is a lawful three-way comparison.  The collator's ranking of
  map-free, complex-free values is shown (in CollatorLemmas) to be `cmpT ∘ enc`,
  so reflexivity, mirror symmetry and transitivity transfer from here.
-/
import CollectionModel.Model.Basic
namespace CM

/-- composition of two comparison results along a chain a ? b ? c (undefined when they pull apart) -/
def Rank.comp : Rank → Rank → Option Rank
  | .eq, r => some r
  | r, .eq => some r
  | .lt, .lt => some .lt
  | .gt, .gt => some .gt
  | _, _ => none

structure Lawful {α : Type} (c : α → α → Rank) : Prop where
  refl : ∀ a, c a a = .eq
  mirror : ∀ a b, c b a = (c a b).flip
  comp : ∀ a b x r, (c a b).comp (c b x) = some r → c a x = r

theorem Rank.comp_cases {r s t : Rank} (h : Rank.comp r s = some t) :
    (r = .eq ∧ t = s) ∨ (s = .eq ∧ t = r) ∨ (r = s ∧ t = r) := by
  cases r <;> cases s <;> cases h <;> decide

theorem Rank.comp_ne_gt : ∀ {r s : Rank}, r ≠ .gt → s ≠ .gt → ∃ t, Rank.comp r s = some t ∧ t ≠ .gt
  | .lt, .lt, _, _ | .lt, .eq, _, _ | .eq, .lt, _, _ => ⟨.lt, rfl, Rank.noConfusion⟩
  | .eq, .eq, _, _ => ⟨.eq, rfl, Rank.noConfusion⟩
  | .gt, _, h, _ | _, .gt, _, h => absurd rfl h

theorem Lawful.totalPreorder {α : Type} {c : α → α → Rank} (h : Lawful c) : TotalPreorder c where
  refl := h.refl
  mirror := h.mirror
  trans a b x h1 h2 := by
    obtain ⟨t, ht, hne⟩ := Rank.comp_ne_gt h1 h2
    rwa [h.comp a b x t ht]

/-- the two notions coincide: composing along a chain is congruence when one link is `eq`
    and transitivity when both links point the same way -/
theorem TotalPreorder.lawful {α : Type} {c : α → α → Rank} (h : TotalPreorder c) : Lawful c where
  refl := h.refl
  mirror := h.mirror
  comp a b x r hr := by
    rcases Rank.comp_cases hr with ⟨hab, rfl⟩ | ⟨hbx, rfl⟩ | ⟨he, rfl⟩
    · exact h.congr_left hab x
    · exact (h.congr_right hbx a).symm
    · cases hab : c a b with
      | eq => rw [h.congr_left hab x, ← he, hab]
      | lt => exact h.lt_of_lt_of_le hab (by simp [← he, hab])
      | gt =>
        have hxb : c x b = .lt := (h.gt_iff_lt x b).mp (he ▸ hab)
        exact (h.gt_iff_lt x a).mpr (h.lt_of_lt_of_le hxb (by simp [(h.gt_iff_lt b a).mp hab]))

theorem Lawful.comap {α β : Type} {c : β → β → Rank} (h : Lawful c) (f : α → β) :
    Lawful (fun a b => c (f a) (f b)) :=
  ⟨fun a => h.refl (f a), fun a b => h.mirror (f a) (f b), fun a b x => h.comp (f a) (f b) (f x)⟩

theorem rankInt_lawful : Lawful rankInt := rankInt_total.lawful

theorem rankNat_lawful : Lawful rankNat := by
  simpa only [rankNat_cast] using rankInt_lawful.comap (fun n : Nat => (n : Int))

theorem comp_eq_left (r s : Rank) (h : Rank.comp .eq r = some s) : r = s := by
  cases r <;> cases h <;> rfl

theorem Rank.comp_ne_eq {r1 r2 r : Rank} (h2 : r2 ≠ .eq) (h : Rank.comp r1 r2 = some r) : r = r2 := by
  rcases Rank.comp_cases h with ⟨_, e⟩ | ⟨e, _⟩ | ⟨e1, e2⟩
  · exact e
  · exact absurd e h2
  · exact e2.trans e1

theorem Rank.comp_ne_eq_left {r1 r2 r : Rank} (h1 : r1 ≠ .eq) (h : Rank.comp r1 r2 = some r) : r = r1 := by
  rcases Rank.comp_cases h with ⟨e, _⟩ | ⟨_, e⟩ | ⟨_, e⟩
  · exact absurd e h1
  · exact e
  · exact e

def lex2 (r1 inner : Rank) : Rank := match r1 with | .eq => inner | r => r

@[simp] theorem lex2_eq_left (i : Rank) : lex2 .eq i = i := rfl
@[simp] theorem lex2_eq_right (r : Rank) : lex2 r .eq = r := by cases r <;> rfl

theorem lex2_flip (r i : Rank) : (lex2 r i).flip = lex2 r.flip i.flip := by cases r <;> rfl

theorem lex2_eq_iff {r i : Rank} : lex2 r i = .eq ↔ r = .eq ∧ i = .eq := by cases r <;> simp [lex2]

theorem lex2_of_ne {r : Rank} (h : r ≠ .eq) (i : Rank) : lex2 r i = r := by
  cases r with
  | eq => exact absurd rfl h
  | lt | gt => rfl

theorem lex2_comp {ra rb rc ia ib ic r : Rank}
    (hc : ∀ r', ra.comp rb = some r' → rc = r')
    (hi : ∀ r', ia.comp ib = some r' → ic = r') :
    (lex2 ra ia).comp (lex2 rb ib) = some r → lex2 rc ic = r := by
  intro hh
  -- two ties leave it to the second ranks; a strict first rank stands against a tie or the same again
  -- and does not compose with its opposite
  cases ra with
  | eq =>
    cases rb with
    | eq => cases hc _ rfl; exact hi r hh
    | lt | gt => cases hc _ rfl; exact (Rank.comp_ne_eq Rank.noConfusion hh).symm
  | lt =>
    cases rb with
    | eq | lt => cases hc _ rfl; exact (Rank.comp_ne_eq_left Rank.noConfusion hh).symm
    | gt => cases hh
  | gt =>
    cases rb with
    | eq | gt => cases hc _ rfl; exact (Rank.comp_ne_eq_left Rank.noConfusion hh).symm
    | lt => cases hh

/-- lexicographic order with a proper prefix first -/
def lexRank {α : Type} (c : α → α → Rank) : List α → List α → Rank
  | [], [] => .eq
  | [], _ :: _ => .lt
  | _ :: _, [] => .gt
  | a :: as, b :: bs => match c a b with
    | .eq => lexRank c as bs
    | r => r

theorem lexRank_cons {α : Type} (c : α → α → Rank) (a b : α) (as bs : List α) :
    lexRank c (a :: as) (b :: bs) = lex2 (c a b) (lexRank c as bs) := by
  simp only [lexRank, lex2]

theorem lexRank_single {α : Type} (c : α → α → Rank) (a b : α) : lexRank c [a] [b] = c a b := by
  rw [lexRank_cons]; exact lex2_eq_right _

/- The laws of `lexRank c` ask `c` to obey them only on the members of the first list: that much the
   induction over a tree (`T.ind`) has for the kids. -/

theorem lexRank_refl_on {α : Type} (c : α → α → Rank) (a : List α) (h : ∀ p ∈ a, c p p = .eq) :
    lexRank c a a = .eq := by
  induction a with
  | nil => rfl
  | cons x xs ih =>
    obtain ⟨hx, hxs⟩ := List.forall_mem_cons.mp h
    rw [lexRank_cons, hx]
    exact ih hxs

theorem lexRank_mirror_on {α : Type} (c : α → α → Rank) (a b : List α)
    (h : ∀ p ∈ a, ∀ q, c q p = (c p q).flip) : lexRank c b a = (lexRank c a b).flip := by
  induction a generalizing b with
  | nil => cases b <;> rfl
  | cons x xs ih =>
    cases b with
    | nil => rfl
    | cons y ys =>
      obtain ⟨hx, hxs⟩ := List.forall_mem_cons.mp h
      rw [lexRank_cons, lexRank_cons, lex2_flip, hx y, ih ys hxs]

theorem lexRank_comp_on {α : Type} (c : α → α → Rank) (a b x : List α) (r : Rank)
    (h : ∀ p ∈ a, ∀ q s r, (c p q).comp (c q s) = some r → c p s = r) :
    (lexRank c a b).comp (lexRank c b x) = some r → lexRank c a x = r := by
  induction a generalizing b x r with
  | nil =>
    cases b with
    | nil => exact comp_eq_left _ _
    | cons q qs =>
      cases x with
      | nil => intro hh; cases hh
      | cons s ss => intro hh; exact (Rank.comp_ne_eq_left Rank.noConfusion hh).symm
  | cons p ps ih =>
    cases b with
    | nil =>
      cases x with
      | nil => intro hh; cases hh; rfl
      | cons s ss => intro hh; cases hh
    | cons q qs =>
      cases x with
      | nil => simp only [lexRank]; intro hh; exact (Rank.comp_ne_eq Rank.noConfusion hh).symm
      | cons s ss =>
        obtain ⟨hp, hps⟩ := List.forall_mem_cons.mp h
        rw [lexRank_cons, lexRank_cons, lexRank_cons]
        exact lex2_comp (hp q s) (fun r' => ih qs ss r' hps)

theorem lexRank_eq_on {α : Type} (c : α → α → Rank) : ∀ (a b : List α),
    (∀ p ∈ a, ∀ q, c p q = .eq → p = q) → lexRank c a b = .eq → a = b
  | [], [], _, _ => rfl
  | [], _ :: _, _, h => by cases h
  | _ :: _, [], _, h => by cases h
  | x :: xs, y :: ys, hc, h => by
    obtain ⟨hx, hxs⟩ := List.forall_mem_cons.mp hc
    rw [lexRank_cons, lex2_eq_iff] at h
    rw [hx y h.1, lexRank_eq_on c xs ys hxs h.2]

theorem lexRank_lawful {α : Type} {c : α → α → Rank} (h : Lawful c) : Lawful (lexRank c) where
  refl a := lexRank_refl_on c a (fun p _ => h.refl p)
  mirror a b := lexRank_mirror_on c a b (fun p _ q => h.mirror p q)
  comp a b x r := lexRank_comp_on c a b x r (fun p _ q s r => h.comp p q s r)

inductive T
  | leaf (tag : Nat) (k : List Int)
  | node (tag : Nat) (kids : List T)
  deriving Repr

mutual
def cmpT : T → T → Rank
  | .leaf t1 k1, .leaf t2 k2 => match rankNat t1 t2 with | .eq => lexRank rankInt k1 k2 | r => r
  | .leaf t1 _, .node t2 _ => match rankNat t1 t2 with | .eq => .lt | r => r
  | .node t1 _, .leaf t2 _ => match rankNat t1 t2 with | .eq => .gt | r => r
  | .node t1 xs, .node t2 ys => match rankNat t1 t2 with | .eq => cmpTs xs ys | r => r
def cmpTs : List T → List T → Rank
  | [], [] => .eq
  | [], _ :: _ => .lt
  | _ :: _, [] => .gt
  | x :: xs, y :: ys => match cmpT x y with
    | .eq => cmpTs xs ys
    | r => r
end

def T.tag : T → Nat
  | .leaf t _ => t
  | .node t _ => t

/-- the comparison of two trees with the same tag -/
def T.inner : T → T → Rank
  | .leaf _ k1, .leaf _ k2 => lexRank rankInt k1 k2
  | .leaf _ _, .node _ _ => .lt
  | .node _ _, .leaf _ _ => .gt
  | .node _ xs, .node _ ys => lexRank cmpT xs ys

@[induction_eliminator] theorem T.ind {motive : T → Prop} (leaf : ∀ t k, motive (.leaf t k))
    (node : ∀ t xs, (∀ p ∈ xs, motive p) → motive (.node t xs)) : ∀ a, motive a
  | .leaf t k => leaf t k
  | .node t xs => node t xs (fun p _ => T.ind leaf node p)
termination_by a => sizeOf a
decreasing_by
  simp_wf
  exact Nat.lt_of_lt_of_le (List.sizeOf_lt_of_mem ‹p ∈ xs›) (Nat.le_add_left _ _)

@[simp] theorem cmpTs_nil : cmpTs [] [] = .eq := by simp only [cmpTs]

@[simp] theorem cmpTs_cons (x y : T) (xs ys : List T) :
    cmpTs (x :: xs) (y :: ys) = lex2 (cmpT x y) (cmpTs xs ys) := by
  simp only [cmpTs, lex2]

theorem cmpTs_eq_lex : ∀ xs ys, cmpTs xs ys = lexRank cmpT xs ys
  | [], [] | [], _ :: _ | _ :: _, [] => by simp only [cmpTs, lexRank]
  | x :: xs, y :: ys => by rw [cmpTs_cons, lexRank_cons, cmpTs_eq_lex xs ys]

theorem cmpT_unfold (a b : T) : cmpT a b = lex2 (rankNat a.tag b.tag) (a.inner b) := by
  cases a <;> cases b <;> simp only [cmpT, lex2, T.tag, T.inner, cmpTs_eq_lex]

theorem cmpT_of_tag_ne {x y : T} (h : x.tag ≠ y.tag) : cmpT x y = rankNat x.tag y.tag := by
  rw [cmpT_unfold, lex2_of_ne (fun e => h (rankNat_eq_iff.mp e))]

theorem cmpT_of_tag_eq {x y : T} (h : x.tag = y.tag) : cmpT x y = x.inner y := by
  rw [cmpT_unfold, h, rankNat_lawful.refl, lex2_eq_left]

@[simp] theorem cmpT_leaf (t : Nat) (k1 k2 : List Int) : cmpT (.leaf t k1) (.leaf t k2) = lexRank rankInt k1 k2 :=
  cmpT_of_tag_eq rfl

@[simp] theorem cmpT_node (t : Nat) (xs ys : List T) : cmpT (.node t xs) (.node t ys) = cmpTs xs ys := by
  rw [cmpTs_eq_lex]; exact cmpT_of_tag_eq rfl

theorem cmpT_single (t : Nat) (i j : Int) : cmpT (.leaf t [i]) (.leaf t [j]) = rankInt i j := by
  rw [cmpT_leaf, lexRank_single]

theorem T.leaf_single_inj {t : Nat} {i j : Int} : T.leaf t [i] = T.leaf t [j] ↔ i = j := by simp

theorem T.node_inj {t : Nat} {xs ys : List T} : T.node t xs = T.node t ys ↔ xs = ys := by simp

theorem cmpT_refl (a : T) : cmpT a a = .eq := by
  induction a with
  | leaf t k => rw [cmpT_leaf]; exact (lexRank_lawful rankInt_lawful).refl k
  | node t xs ih => rw [cmpT_node, cmpTs_eq_lex]; exact lexRank_refl_on cmpT xs ih

/- The tags are compared by `rankNat`, so each of the other laws of `cmpT` at `a` is the same law of `T.inner` at `a`. -/

theorem cmpT_mirror_of_inner {a : T} (h : ∀ b, b.inner a = (a.inner b).flip) (b : T) :
    cmpT b a = (cmpT a b).flip := by
  rw [cmpT_unfold, cmpT_unfold a, lex2_flip, ← rankNat_lawful.mirror, h]

theorem cmpT_comp_of_inner {a : T} (h : ∀ b x r, (a.inner b).comp (b.inner x) = some r → a.inner x = r)
    (b x : T) (r : Rank) : (cmpT a b).comp (cmpT b x) = some r → cmpT a x = r := by
  rw [cmpT_unfold a b, cmpT_unfold b x, cmpT_unfold a x]
  exact lex2_comp (rankNat_lawful.comp _ _ _) (h b x)

theorem cmpT_eq_of_inner {a : T} (h : ∀ b, a.tag = b.tag → a.inner b = .eq → a = b) (b : T) :
    cmpT a b = .eq → a = b := by
  rw [cmpT_unfold, lex2_eq_iff, rankNat_eq_iff]
  exact fun ⟨ht, hi⟩ => h b ht hi

theorem cmpT_mirror (a b : T) : cmpT b a = (cmpT a b).flip := by
  induction a generalizing b with
  | leaf t k =>
    refine cmpT_mirror_of_inner (fun b => ?_) b
    cases b <;> simp only [T.inner, Rank.flip, (lexRank_lawful rankInt_lawful).mirror k]
  | node t xs ih =>
    refine cmpT_mirror_of_inner (fun b => ?_) b
    cases b <;> simp only [T.inner, Rank.flip, lexRank_mirror_on cmpT xs _ ih]

theorem cmpT_comp (a b x : T) (r : Rank) : (cmpT a b).comp (cmpT b x) = some r → cmpT a x = r := by
  induction a generalizing b x r with
  | leaf t k =>
    refine cmpT_comp_of_inner (fun b x r hh => ?_) b x r
    cases b with
    | leaf _ kb =>
      cases x with
      | leaf _ kx => exact (lexRank_lawful rankInt_lawful).comp k kb kx r hh
      | node _ _ => exact (Rank.comp_ne_eq Rank.noConfusion hh).symm
    | node _ _ =>
      cases x with
      | leaf _ _ => cases hh
      | node _ _ => exact (Rank.comp_ne_eq_left Rank.noConfusion hh).symm
  | node t xs ih =>
    refine cmpT_comp_of_inner (fun b x r hh => ?_) b x r
    cases b with
    | leaf _ _ =>
      cases x with
      | leaf _ _ => exact (Rank.comp_ne_eq_left Rank.noConfusion hh).symm
      | node _ _ => cases hh
    | node _ ys =>
      cases x with
      | leaf _ _ => exact (Rank.comp_ne_eq Rank.noConfusion hh).symm
      | node _ zs => exact lexRank_comp_on cmpT xs ys zs r ih hh

theorem cmpT_lawful : Lawful cmpT := ⟨cmpT_refl, cmpT_mirror, cmpT_comp⟩

theorem cmpT_eq (a b : T) : cmpT a b = .eq → a = b := by
  induction a generalizing b with
  | leaf t k =>
    refine cmpT_eq_of_inner (fun b ht hi => ?_) b
    cases b with
    | leaf _ kb => cases ht; rw [lexRank_eq_on rankInt k kb (fun _ _ _ => rankInt_eq_iff.mp) hi]
    | node _ _ => cases hi
  | node t xs ih =>
    refine cmpT_eq_of_inner (fun b ht hi => ?_) b
    cases b with
    | leaf _ _ => cases hi
    | node _ ys => cases ht; rw [lexRank_eq_on cmpT xs ys ih hi]

theorem cmpT_eq_iff {a b : T} : cmpT a b = .eq ↔ a = b :=
  ⟨cmpT_eq a b, fun h => h ▸ cmpT_refl a⟩

theorem cmpTs_eq_iff {xs ys : List T} : cmpTs xs ys = .eq ↔ xs = ys := by
  rw [cmpTs_eq_lex]
  exact ⟨lexRank_eq_on cmpT xs ys (fun p _ q => cmpT_eq p q),
    fun h => h ▸ lexRank_refl_on cmpT xs (fun p _ => cmpT_refl p)⟩

end CM
