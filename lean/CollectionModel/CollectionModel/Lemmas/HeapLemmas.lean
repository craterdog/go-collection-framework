/-
  Frame lemmas for the storage model: allocation appends, in-place writes touch
  one cell, handles own distinct cells.  `Frame x s t`: `t` comes from `s` by
  storage commands that write only through handle `x`.
-/
import CollectionModel.Model.Heap
namespace CM
namespace Heap

/-- core has no `List.Nodup.set` -/
theorem nodup_set {α} {l : List α} {a : α} (h : l.Nodup) (ha : a ∉ l) (i : Nat) : (l.set i a).Nodup := by
  induction l generalizing i with
  | nil => exact List.nodup_nil
  | cons x xs ih =>
    have ⟨hx, hxs⟩ := List.nodup_cons.mp h
    have ha' : a ∉ xs := fun hm => ha (List.mem_cons_of_mem x hm)
    cases i with
    | zero => exact List.nodup_cons.mpr ⟨ha', hxs⟩
    | succ i =>
      -- what `set` leaves in the tail was there before or is `a`, and `x` is neither
      exact List.nodup_cons.mpr ⟨fun hm => (List.mem_or_eq_of_mem_set hm).elim hx
        fun e => ha (e ▸ List.mem_cons_self), ih hxs ha' i⟩

/-- every handle points at an existing cell and no two handles share a cell -/
structure WF (s : St) : Prop where
  nodup : s.refs.Nodup
  bound : ∀ r ∈ s.refs, r < s.cells.length

theorem wf_empty : WF St.empty := ⟨List.nodup_nil, by simp [St.empty]⟩

variable {s t : St} {a b x y : Nat}

theorem addr_lt (h : WF s) (hy : y < s.refs.length) : s.addr y < s.cells.length := by
  apply h.bound
  unfold St.addr
  rw [List.getD_eq_getElem?_getD, List.getElem?_eq_getElem hy]; exact List.getElem_mem hy

theorem addr_inj (h : WF s) (hx : x < s.refs.length) (hy : y < s.refs.length) (hne : x ≠ y) :
    s.addr x ≠ s.addr y :=
  fun he => hne ((List.getD_inj hx hy h.nodup).mp he)

theorem fresh_not_ref (h : WF s) : s.cells.length ∉ s.refs :=
  fun hm => Nat.lt_irrefl _ (h.bound _ hm)

@[simp] theorem alloc_refs (s : St) (c : Cell) : (s.alloc c).1.refs = s.refs := rfl
@[simp] theorem alloc_len (s : St) (c : Cell) : (s.alloc c).1.cells.length = s.cells.length + 1 :=
  List.length_append
@[simp] theorem alloc_snd (s : St) (c : Cell) : (s.alloc c).2 = s.cells.length := rfl
@[simp] theorem alloc_addr (s : St) (c : Cell) (y : Nat) : (s.alloc c).1.addr y = s.addr y := rfl

theorem alloc_cell_old (s : St) (c : Cell) (ha : a < s.cells.length) : (s.alloc c).1.cell a = s.cell a := by
  simp [St.alloc, St.cell, List.getD_eq_getElem?_getD, List.getElem?_append_left ha]

@[simp] theorem alloc_cell_new (s : St) (c : Cell) : (s.alloc c).1.cell s.cells.length = c := by
  simp [St.alloc, St.cell, List.getD_eq_getElem?_getD]

@[simp] theorem push_len (s : St) (a : Nat) : (s.push a).refs.length = s.refs.length + 1 :=
  List.length_append
@[simp] theorem push_cells (s : St) (a : Nat) : (s.push a).cells = s.cells := rfl

theorem push_addr_old (s : St) (a : Nat) (hy : y < s.refs.length) : (s.push a).addr y = s.addr y := by
  simp [St.push, St.addr, List.getD_eq_getElem?_getD, List.getElem?_append_left hy]

@[simp] theorem push_addr_new (s : St) (a : Nat) : (s.push a).addr s.refs.length = a := by
  simp [St.push, St.addr, List.getD_eq_getElem?_getD]

@[simp] theorem push_cell (s : St) (a b : Nat) : (s.push a).cell b = s.cell b := rfl

@[simp] theorem poke_refs (s : St) (a : Nat) (c : Cell) : (s.poke a c).refs = s.refs := rfl
@[simp] theorem poke_len (s : St) (a : Nat) (c : Cell) : (s.poke a c).cells.length = s.cells.length :=
  List.length_set
@[simp] theorem poke_addr (s : St) (a : Nat) (c : Cell) (y : Nat) : (s.poke a c).addr y = s.addr y := rfl

theorem poke_cell_other (s : St) (c : Cell) (hne : b ≠ a) : (s.poke a c).cell b = s.cell b := by
  simp [St.poke, St.cell, List.getD_eq_getElem?_getD, Ne.symm hne]

theorem poke_cell_same (s : St) (c : Cell) (ha : a < s.cells.length) : (s.poke a c).cell a = c := by
  simp [St.poke, St.cell, List.getD_eq_getElem?_getD, ha]

@[simp] theorem retarget_len (s : St) (x a : Nat) : (s.retarget x a).refs.length = s.refs.length :=
  List.length_set
@[simp] theorem retarget_cells (s : St) (x a : Nat) : (s.retarget x a).cells = s.cells := rfl

theorem retarget_addr_other (s : St) (a : Nat) (hne : x ≠ y) : (s.retarget x a).addr y = s.addr y := by
  simp [St.retarget, St.addr, List.getD_eq_getElem?_getD, hne]

theorem retarget_addr_self (s : St) (a : Nat) (hx : x < s.refs.length) : (s.retarget x a).addr x = a := by
  simp [St.retarget, St.addr, List.getD_eq_getElem?_getD, hx]

@[simp] theorem retarget_cell (s : St) (x a b : Nat) : (s.retarget x a).cell b = s.cell b := rfl

theorem wf_alloc (h : WF s) (c : Cell) : WF (s.alloc c).1 :=
  ⟨h.nodup, fun r hr => alloc_len s c ▸ Nat.lt_succ_of_lt (h.bound r hr)⟩

theorem wf_poke (h : WF s) (a : Nat) (c : Cell) : WF (s.poke a c) :=
  ⟨h.nodup, fun r hr => poke_len s a c ▸ h.bound r hr⟩

theorem wf_push (h : WF s) (ha : a < s.cells.length) (hfresh : a ∉ s.refs) : WF (s.push a) where
  nodup := List.nodup_append.mpr ⟨h.nodup, List.pairwise_singleton .., fun _ hr _ hb he =>
    hfresh (List.mem_singleton.mp hb ▸ he ▸ hr)⟩
  bound r hr := (List.mem_append.mp hr).elim (h.bound r) fun hr => List.mem_singleton.mp hr ▸ ha

theorem wf_retarget (h : WF s) (x : Nat) (ha : a < s.cells.length) (hfresh : a ∉ s.refs) :
    WF (s.retarget x a) where
  nodup := nodup_set h.nodup hfresh x
  bound r hr := (List.mem_or_eq_of_mem_set hr).elim (h.bound r) fun he => he ▸ ha

theorem obs_alloc (h : WF s) (c : Cell) (hy : y < s.refs.length) : (s.alloc c).1.obs y = s.obs y :=
  alloc_cell_old s c (addr_lt h hy)

theorem obs_push (s : St) (a : Nat) (hy : y < s.refs.length) : (s.push a).obs y = s.obs y :=
  congrArg s.cell (push_addr_old s a hy)

theorem obs_retarget (s : St) (a : Nat) (hne : x ≠ y) : (s.retarget x a).obs y = s.obs y :=
  congrArg s.cell (retarget_addr_other s a hne)

@[simp] theorem inplace_refs (s : St) (x : Nat) (c : Cell) : (s.inplace x c).refs = s.refs := rfl

/-- a handle that does not exist: the write lands nowhere or on handle 0's cell;
    scripts never do this, the lemma keeps `exec` total -/
theorem obs_inplace_any (s : St) (h : WF s) (x : Nat) (c : Cell) (y : Nat)
    (hy : y < s.refs.length) (hne : s.addr x ≠ s.addr y) : (s.inplace x c).obs y = s.obs y :=
  poke_cell_other s c (Ne.symm hne)

theorem obs_inplace (h : WF s) (c : Cell) (hx : x < s.refs.length) (hy : y < s.refs.length) (hne : x ≠ y) :
    (s.inplace x c).obs y = s.obs y :=
  obs_inplace_any s h x c y hy (addr_inj h hx hy hne)

theorem obs_inplace_self (h : WF s) (c : Cell) (hx : x < s.refs.length) : (s.inplace x c).obs x = c :=
  poke_cell_same s c (addr_lt h hx)

/-- A write through a handle that does not exist lands on cell 0, which may be another handle's
    (`obs_inplace_any`): hence the premise of `obs`.  `wf` is carried so that every step
    (`Frame.alloc`, `Frame.push`, …) finds the state it extends well formed. -/
structure Frame (x : Option Nat) (s t : St) : Prop where
  wf : WF t
  refs : s.refs.length ≤ t.refs.length
  obs : (∀ z ∈ x, z < s.refs.length) → ∀ y, y < s.refs.length → x ≠ some y → t.obs y = s.obs y

namespace Frame
variable {x : Option Nat} {z : Nat}

theorem refl (h : WF s) : Frame x s s := ⟨h, Nat.le_refl _, fun _ _ _ _ => rfl⟩

theorem alloc (f : Frame x s t) (c : Cell) : Frame x s (t.alloc c).1 where
  wf := wf_alloc f.wf c
  refs := f.refs
  obs hx y hy hne := (obs_alloc f.wf c (Nat.lt_of_lt_of_le hy f.refs)).trans (f.obs hx y hy hne)

theorem snap (f : Frame x s t) (y : Nat) : Frame x s (t.snap y).1 := f.alloc _

theorem push (f : Frame x s t) (ha : a < t.cells.length) (hfresh : a ∉ t.refs) : Frame x s (t.push a) where
  wf := wf_push f.wf ha hfresh
  refs := push_len t a ▸ Nat.le_succ_of_le f.refs
  obs hx y hy hne := (obs_push t a (Nat.lt_of_lt_of_le hy f.refs)).trans (f.obs hx y hy hne)

theorem inplace (f : Frame (some z) s t) (c : Cell) : Frame (some z) s (t.inplace z c) where
  wf := wf_poke f.wf _ c
  refs := f.refs
  obs hx y hy hne :=
    (obs_inplace f.wf c (Nat.lt_of_lt_of_le (hx z rfl) f.refs) (Nat.lt_of_lt_of_le hy f.refs)
      fun he => hne (congrArg some he)).trans (f.obs hx y hy hne)

theorem retarget (f : Frame (some z) s t) (ha : a < t.cells.length) (hfresh : a ∉ t.refs) :
    Frame (some z) s (t.retarget z a) where
  wf := wf_retarget f.wf z ha hfresh
  refs := retarget_len t z a ▸ f.refs
  obs hx y hy hne := (obs_retarget t a fun he => hne (congrArg some he)).trans (f.obs hx y hy hne)

theorem give (f : Frame x s t) (c : Cell) : Frame x s (t.give c) :=
  (f.alloc c).push (alloc_len t c ▸ Nat.lt_succ_self _) (fresh_not_ref f.wf)

theorem alloc_retarget (f : Frame (some z) s t) (c : Cell) : Frame (some z) s ((t.alloc c).1.retarget z t.cells.length) :=
  (f.alloc c).retarget (alloc_len t c ▸ Nat.lt_succ_self _) (fresh_not_ref f.wf)

theorem rebuild (f : Frame (some z) s t) (new : List Int) : Frame (some z) s (t.rebuild z new) :=
  (f.snap z).alloc_retarget (.vals new)

end Frame

@[simp] theorem give_len (s : St) (c : Cell) : (s.give c).refs.length = s.refs.length + 1 := push_len ..

/-- the object handed out sits in a cell that did not exist before -/
theorem give_new (s : St) (c : Cell) :
    (s.give c).addr s.refs.length = s.cells.length ∧ (s.give c).obs s.refs.length = c := by
  have e : (s.give c).addr s.refs.length = s.cells.length := push_addr_new (s.alloc c).1 _
  exact ⟨e, (congrArg (s.alloc c).1.cell e).trans (alloc_cell_new s c)⟩

/-- every constructor and getter ends this way: allocations only, then `give` -/
theorem give_fresh (hc : s.cells.length ≤ t.cells.length) (hr : t.refs = s.refs) (c : Cell) :
    s.cells.length ≤ (t.give c).addr s.refs.length := by
  rw [← hr, (give_new t c).1]; exact hc

theorem snap_le (s : St) (y : Nat) : s.cells.length ≤ (s.snap y).1.cells.length :=
  alloc_len .. ▸ Nat.le_succ _

theorem snap_cell (s : St) (y : Nat) : (s.snap y).1.cell (s.snap y).2 = s.obs y := alloc_cell_new ..

theorem snap_valsOf (h : WF s) (hx : x < s.refs.length) (y : Nat) : (s.snap y).1.valsOf x = s.valsOf x :=
  congrArg Cell.toVals (obs_alloc h _ hx)

@[simp] theorem rebuild_len (s : St) (x : Nat) (new : List Int) : (s.rebuild x new).refs.length = s.refs.length :=
  retarget_len ..

theorem rebuild_addr (s : St) (new : List Int) (hx : x < s.refs.length) :
    (s.rebuild x new).addr x = s.cells.length + 1 :=
  (retarget_addr_self _ _ hx).trans (alloc_len ..)

theorem obs_rebuild_self (s : St) (new : List Int) (hx : x < s.refs.length) :
    (s.rebuild x new).obs x = .vals new :=
  (congrArg (St.cell _) (retarget_addr_self _ _ hx)).trans (alloc_cell_new _ _)

/-- after a rebuild the receiver's storage is a cell that did not exist before -/
theorem rebuild_fresh (s : St) (x : Nat) (new : List Int) (hx : x < s.refs.length) :
    s.cells.length ≤ (s.rebuild x new).addr x :=
  rebuild_addr s new hx ▸ Nat.le_succ _

theorem retarget_push_addr (s : St) (a b : Nat) (hx : x < s.refs.length) :
    ((s.retarget x a).push b).addr s.refs.length = b ∧ ((s.retarget x a).push b).addr x = a :=
  ⟨retarget_len s x a ▸ push_addr_new _ b,
    (push_addr_old _ b (retarget_len s x a ▸ hx)).trans (retarget_addr_self s a hx)⟩

end Heap
end CM
