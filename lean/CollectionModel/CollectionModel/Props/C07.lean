/-
  C07 — RankValues is a total preorder on every supported value type.

  Proved for the universe `U` = values without Go maps and without complex numbers
  (Arrays, Lists, Sets, Stacks, Queues, Catalogs, associations, Go slices, and every
  primitive kind including NaN and signed zeros, nested arbitrarily).  The model of
  `rankMaps` (keys sorted with the model sorter and the ranker itself) is executable
  and tied to the code by the correspondence run; its order laws are NOT proved here
  (see `C07_full_statement`), and complex numbers violate transitivity in the code
  itself (recorded finding, see `C07_counterexample_complex`).
-/
import CollectionModel.Lemmas.CollatorLemmas
namespace CM
open CM.Coll

/-- **soundness**: whenever the ranking call returns on values of `U`, the answer is the
    comparison of their canonical images — for every fuel, depth and maximum.  In
    particular the answer does not depend on which of two equal-content collections is
    passed, nor on the collator's history. -/
theorem C07_rank_canonical (max f d : Nat) (a b : Val) (r : Rank) (ha : inU a = true) (hb : inU b = true)
    (h : rank max f d a b = .ok r) : r = cmpT (enc a) (enc b) := rank_sound max f d a b r ha hb h

/-- the canonical comparison is a total preorder (so sorting and ordered-set membership
    over `U` are well defined) -/
theorem C07_total_preorder : TotalPreorder (fun a b : Val => cmpT (enc a) (enc b)) :=
  cmpT_lawful.totalPreorder.comap enc

/-- **reflexive**: RankValues(a, a) is Equal -/
theorem C07_refl (max f d : Nat) (a : Val) (r : Rank) (ha : inU a = true)
    (h : rank max f d a a = .ok r) : r = .eq := by
  rw [C07_rank_canonical max f d a a r ha ha h]
  exact C07_total_preorder.refl a

/-- **mirror**: RankValues(b, a) is the mirror image of RankValues(a, b) -/
theorem C07_mirror (max f d f' d' : Nat) (a b : Val) (r1 r2 : Rank) (ha : inU a = true) (hb : inU b = true)
    (h1 : rank max f d a b = .ok r1) (h2 : rank max f' d' b a = .ok r2) : r2 = r1.flip := by
  rw [C07_rank_canonical max f d a b r1 ha hb h1, C07_rank_canonical max f' d' b a r2 hb ha h2]
  exact C07_total_preorder.mirror a b

/-- **transitive**: lesser-or-equal is transitive -/
theorem C07_trans (max f1 d1 f2 d2 f3 d3 : Nat) (a b c : Val) (r1 r2 r3 : Rank)
    (ha : inU a = true) (hb : inU b = true) (hc : inU c = true)
    (h1 : rank max f1 d1 a b = .ok r1) (h2 : rank max f2 d2 b c = .ok r2) (h3 : rank max f3 d3 a c = .ok r3)
    (hab : r1 ≠ .gt) (hbc : r2 ≠ .gt) : r3 ≠ .gt := by
  rw [C07_rank_canonical max f1 d1 a b r1 ha hb h1] at hab
  rw [C07_rank_canonical max f2 d2 b c r2 hb hc h2] at hbc
  rw [C07_rank_canonical max f3 d3 a c r3 ha hc h3]
  exact C07_total_preorder.trans a b c hab hbc

/-- **natural order of the primitives**: false<true, numeric order, NaN first, byte-wise strings -/
theorem C07_natural (max f d : Nat) :
    (∀ x y, rank max (f+1) d (.bool x) (.bool y) = .ok (rankBool x y)) ∧
    (∀ x y, rank max (f+1) d (.int x) (.int y) = .ok (rankInt x y)) ∧
    (∀ x y, rank max (f+1) d (.uns x) (.uns y) = .ok (rankNat x y)) ∧
    (∀ x y, rank max (f+1) d (.byte x) (.byte y) = .ok (rankNat x y)) ∧
    (∀ x y, rank max (f+1) d (.rune x) (.rune y) = .ok (rankInt x y)) ∧
    (∀ x y, rank max (f+1) d (.flt x) (.flt y) = .ok (rankFl x y)) ∧
    (∀ x y, rank max (f+1) d (.str x) (.str y) = .ok (rankBytes x y)) :=
  ⟨fun x y => rank_leaf (.bool x y), fun x y => rank_leaf (.int x y), fun x y => rank_leaf (.uns x y),
    fun x y => rank_leaf (.byte x y), fun x y => rank_leaf (.rune x y), fun x y => rank_leaf (.flt x y),
    fun x y => rank_leaf (.str x y)⟩

/-- **an undefined value (nil) ranks before every defined one** -/
theorem C07_undef_first (max f d : Nat) (b : Val) (hb : isUndef b = false) :
    rank max (f+1) d .undef b = .ok .lt ∧ rank max (f+1) d b .undef = .ok .gt := by
  have e : (enc b).tag = b.tcode + 1 := enc_tag (by rintro rfl; cases hb)
  have h : (enc .undef).tag ≠ (enc b).tag := by rw [e]; exact (Nat.succ_ne_zero _).symm
  rw [rank_of_tag_ne h, rank_of_tag_ne h.symm, e]
  exact ⟨rfl, rfl⟩

/-- **a proper prefix ranks first** (sequences are ordered lexicographically) -/
theorem C07_prefix_first (xs : List T) (y : T) (ys : List T) : cmpTs xs (xs ++ y :: ys) = .lt := by
  induction xs with
  | nil => simp [cmpTs]
  | cons x xs ih => simp [cmpT_refl, ih]

/-- **independence from earlier calls**: a call leaves the collator as it found it
    (also when it ends in the depth-limit panic) -/
theorem C07_collator_unchanged (c : Collator) (a b : Val) :
    (rankValues c a b).2 = c ∧ (compareValues c a b).2 = c := ⟨rfl, rfl⟩

/-- NaN has a place in the order: before every number, equal to itself -/
example : rankFl .nan (.num 0) = .lt ∧ rankFl .nan .nan = .eq ∧ rankFl (.num 0) .nan = .gt := by decide

/-- **recorded finding (complex numbers)**: -1+0i and -1-0i are `==` (Equal by the shortcut) but
    their phases are +π and -π, so against i (same magnitude, phase π/2) the chain
    `-1+0i ≤ -1-0i ≤ i` holds while `-1+0i > i`: ranking complex numbers is not transitive. -/
theorem C07_counterexample_complex :
    let a : Cx := { re := .num (-5), im := .num 0, abs := .num 5, ph := .num 3 }    -- -1+0i
    let b : Cx := { re := .num (-5), im := .num 0, abs := .num 5, ph := .num (-3) } -- -1-0i
    let c : Cx := { re := .num 0, im := .num 5, abs := .num 5, ph := .num 1 }       -- i
    rankCx a b = .eq ∧ rankCx b c = .lt ∧ rankCx a c = .gt := by decide

/-- the full-strength statement of C07 for the whole supported universe; what is proved is the
    restriction to `U` above (the `_partial` reading); the missing parts are Go maps (tied to the
    code by correspondence only) and complex numbers (violated by the code, recorded). -/
def C07_full_statement : Prop :=
  ∀ (max f d : Nat) (a b c : Val) (r1 r2 r3 : Rank),
    rank max f d a b = .ok r1 → rank max f d b c = .ok r2 → rank max f d a c = .ok r3 →
    r1 ≠ .gt → r2 ≠ .gt → r3 ≠ .gt

/-- the complex counterexample refutes the full statement: it can only be claimed on `U` -/
theorem C07_full_statement_fails : ¬ C07_full_statement := by
  intro h
  have := h 16 2 0
    (.cpx { re := .num (-5), im := .num 0, abs := .num 5, ph := .num 3 })
    (.cpx { re := .num (-5), im := .num 0, abs := .num 5, ph := .num (-3) })
    (.cpx { re := .num 0, im := .num 5, abs := .num 5, ph := .num 1 }) .eq .lt .gt
    (rank_leaf (.cpx ..)) (rank_leaf (.cpx ..)) (rank_leaf (.cpx ..)) (by decide) (by decide)
  exact this rfl

example : inU (.coll .set [.int 1, .arr false false [.str [97], .flt .nan], .assoc (.str [107]) (.bool true)]) = true := by decide

end CM
