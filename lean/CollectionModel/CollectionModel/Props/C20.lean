/-
  C20 — Universal constructors build what the class constructors and the
  parser build.

  Statement (properties.jsonl): for every documented argument form (none, size
  or capacity, Go array, Go map, sequence, collator, CDCN source, each
  optionally with a notation) and element type, each module-level constructor
  returns a collection of the same kind, contents, order and capacity as the
  corresponding class-level constructor given the same data; the CDCN-source
  form yields the contents and order of parsing that source; Association(k, v)
  has key k and value v for every pair of types, identical ones included.

  The theorems are about `Model/Facade.lean` (the dispatch of `v4/Module.go`)
  and are generic in the element type: nothing depends on which of the seven
  element types instantiates `α`.
-/
import CollectionModel.Model.Facade
import CollectionModel.Lemmas.SeqLemmas
import CollectionModel.Lemmas.SetLemmas
import CollectionModel.Lemmas.AssocLemmas
namespace CM
open CM.Seq CM.Facade CM.SeqSpec

variable {α : Type}

def AllNotation (l : List (Arg α)) : Prop := ∀ x ∈ l, x = Arg.notation

theorem foldl_store_notation (s : Slots α) : ∀ (l : List (Arg α)), AllNotation l → l.foldl store s = s
  | [], _ => rfl
  | x :: xs, h => by
    have hx : x = Arg.notation := h x (by simp)
    subst hx
    simp only [List.foldl_cons, store]
    exact foldl_store_notation s xs (fun y hy => h y (by simp [hy]))

theorem collect_notations (pre mid post : List (Arg α)) (hp : AllNotation pre) (hq : AllNotation post) :
    collect (pre ++ mid ++ post) = mid.foldl store {} := by
  unfold collect
  rw [List.foldl_append, List.foldl_append, foldl_store_notation _ pre hp, foldl_store_notation _ post hq]

/-- **notation placement**: notation arguments before and after the data
    argument, in any number, change nothing about the slots -/
theorem collect_with_notations (pre post : List (Arg α)) (a : Arg α)
    (hp : AllNotation pre) (hq : AllNotation post) :
    collect (pre ++ [a] ++ post) = store {} a :=
  collect_notations pre [a] post hp hq

theorem collect_notations_only (pre : List (Arg α)) (hp : AllNotation pre) : collect pre = {} :=
  foldl_store_notation _ pre hp

section
variable [Inhabited α]

theorem fillFrom_spec : ∀ (rest done : List α),
    fillFrom (done ++ List.replicate rest.length default) ((done.length : Int) + 1) rest = .ok (done ++ rest)
  | [], done => by simp [fillFrom]
  | v :: vs, done => by
    simp only [List.length_cons, List.replicate_succ, fillFrom]
    rw [setValue_at]
    have := fillFrom_spec vs (done ++ [v])
    simp only [List.length_append, List.length_singleton, List.append_assoc, List.singleton_append,
      Int.natCast_add, Int.natCast_one] at this
    simpa using this

/-- **C20, Array**: size, Go array, sequence and CDCN source, with notation
    arguments anywhere, build what `Make(size)` / `MakeFromArray` /
    `MakeFromSequence` build from the same data; the source form has the
    contents and order of the parsed array; no data argument is the documented
    panic. -/
theorem C20_array (pre post : List (Arg α)) (hp : AllNotation pre) (hq : AllNotation post) :
    (∀ n, buildArray (collect (pre ++ [.size n] ++ post)) = some (.ok (clsArrayMake n))) ∧
    (∀ vs, buildArray (collect (pre ++ [.goarray vs] ++ post)) = some (.ok (clsArrayFrom vs))) ∧
    (∀ vs, buildArray (collect (pre ++ [.sequence vs] ++ post)) = some (.ok (clsArrayFrom vs))) ∧
    (∀ items, buildArray (collect (pre ++ [.source items] ++ post)) = some (.ok (clsArrayFrom items))) ∧
    buildArray (collect pre) = some (.error .lib) := by
  simp only [collect_with_notations _ _ _ hp hq, collect_notations_only _ hp]
  refine ⟨fun _ => rfl, fun _ => rfl, fun _ => rfl, fun items => ?_, rfl⟩
  have := fillFrom_spec items ([] : List α)
  simp only [List.nil_append, List.length_nil, Int.natCast_zero, Int.zero_add] at this
  simp only [buildArray, store, clsArrayMake, clsArrayFrom, this]

/-- **C20, List**: Go array, sequence and source build what `MakeFromArray` / `MakeFromSequence` build; no data
    argument gives the empty list. -/
theorem C20_list (pre post : List (Arg α)) (hp : AllNotation pre) (hq : AllNotation post) :
    (∀ vs, buildList (collect (pre ++ [.goarray vs] ++ post)) = some (.ok (clsListFrom vs))) ∧
    (∀ vs, buildList (collect (pre ++ [.sequence vs] ++ post)) = some (.ok (clsListFrom vs))) ∧
    (∀ items, buildList (collect (pre ++ [.source items] ++ post)) = some (.ok (clsListFrom items))) ∧
    (∀ items : List α, (clsListFrom items).items = items) ∧
    buildList (collect pre) = some (.ok (clsListFrom [])) := by
  simp only [collect_with_notations _ _ _ hp hq, collect_notations_only _ hp]
  exact ⟨fun vs => by cases vs <;> rfl, fun _ => rfl, fun _ => rfl, makeFromSequence_spec, rfl⟩

/-- the capacity `MakeFromSequence` chooses holds the values and is at least the default -/
theorem cap_holds (n dflt : Nat) : n ≤ (if n > dflt then n else dflt) ∧ dflt ≤ (if n > dflt then n else dflt) := by
  by_cases h : n > dflt
  · rw [if_pos h]; exact ⟨Nat.le_refl n, Nat.le_of_lt h⟩
  · rw [if_neg h]; exact ⟨Nat.not_lt.mp h, Nat.le_refl dflt⟩

/-- **C20, Stack**: capacity, Go array, sequence, source; the source form keeps
    the order of the parsed stack (top first) and a capacity that holds it. -/
theorem C20_stack (dflt : Nat) (pre post : List (Arg α)) (hp : AllNotation pre) (hq : AllNotation post) :
    (∀ c, 1 ≤ c → buildStack dflt (collect (pre ++ [.size c] ++ post)) = some (.ok ({ items := [], cap := some c } : Built α))) ∧
    (∀ vs, buildStack dflt (collect (pre ++ [.goarray vs] ++ post)) = some (.ok (clsStackFrom dflt vs))) ∧
    (∀ vs, buildStack dflt (collect (pre ++ [.sequence vs] ++ post)) = some (.ok (clsStackFrom dflt vs))) ∧
    (∀ items, buildStack dflt (collect (pre ++ [.source items] ++ post)) = some (.ok (clsStackFrom dflt items))) ∧
    (∀ items : List α, (clsStackFrom dflt items).items = items ∧
       ∃ c, (clsStackFrom dflt items).cap = some c ∧ items.length ≤ c ∧ dflt ≤ c) ∧
    buildStack dflt (collect pre) = some (.ok (clsStackMake dflt)) := by
  simp only [collect_with_notations _ _ _ hp hq, collect_notations_only _ hp]
  refine ⟨fun c hc => ?_, fun vs => by cases vs <;> rfl, fun _ => rfl,
    fun items => by simp only [buildStack, store, nonEmpty, foldl_append_singleton, List.nil_append], fun items => ?_, rfl⟩
  · obtain ⟨c, rfl⟩ := Nat.exists_eq_add_of_le' hc; rfl
  · simp only [clsStackFrom, Stack.makeFrom, makeFromSequence_spec, true_and]
    exact ⟨_, rfl, cap_holds _ _⟩

/-- **C20, Queue**: as for Stack; the capacity of the source form is the one
    `MakeFromSequence` chooses, so a source of more values than the default
    capacity does not block the constructor (the model's class constructor is
    total; that the real one terminates is C05). -/
theorem C20_queue (dflt : Nat) (pre post : List (Arg α)) (hp : AllNotation pre) (hq : AllNotation post) :
    (∀ c, 1 ≤ c → buildQueue dflt (collect (pre ++ [.size c] ++ post)) = some (.ok (clsQueueCap dflt c))) ∧
    (∀ vs, buildQueue dflt (collect (pre ++ [.goarray vs] ++ post)) = some (.ok (clsQueueFrom dflt vs))) ∧
    (∀ vs, buildQueue dflt (collect (pre ++ [.sequence vs] ++ post)) = some (.ok (clsQueueFrom dflt vs))) ∧
    (∀ items, buildQueue dflt (collect (pre ++ [.source items] ++ post)) = some (.ok (clsQueueFrom dflt items))) ∧
    (∀ items : List α, (clsQueueFrom dflt items).items = items ∧
       ∃ c, (clsQueueFrom dflt items).cap = some c ∧ items.length ≤ c ∧ dflt ≤ c) ∧
    buildQueue dflt (collect pre) = some (.ok (clsQueueCap dflt 0)) := by
  simp only [collect_with_notations _ _ _ hp hq, collect_notations_only _ hp]
  refine ⟨fun c hc => ?_, fun vs => by cases vs <;> rfl, fun _ => rfl,
    fun items => by simp only [buildQueue, store, nonEmpty, foldl_append_singleton, List.nil_append], fun items => ?_, rfl⟩
  · obtain ⟨c, rfl⟩ := Nat.exists_eq_add_of_le' hc; rfl
  · simp only [clsQueueFrom, makeFromSequence_spec, true_and]
    exact ⟨_, rfl, cap_holds _ _⟩

/-- **C20, Set** (the collator in effect, explicit or default, is `rank`) -/
theorem C20_set (rank : α → α → Rank) (pre post : List (Arg α)) (hp : AllNotation pre) (hq : AllNotation post) :
    (∀ vs, buildSet rank (collect (pre ++ [.goarray vs] ++ post)) = clsSetFrom rank vs) ∧
    (∀ vs, buildSet rank (collect (pre ++ [.sequence vs] ++ post)) = clsSetFrom rank vs) ∧
    (∀ items, buildSet rank (collect (pre ++ [.source items] ++ post)) = clsSetFrom rank items) ∧
    (∀ vs, buildSet rank (collect (pre ++ [.collator, .goarray vs] ++ post)) = clsSetFrom rank vs) ∧
    (∀ vs, buildSet rank (collect (pre ++ [.collator, .sequence vs] ++ post)) = clsSetFrom rank vs) ∧
    (∀ items, buildSet rank (collect (pre ++ [.collator, .source items] ++ post)) = clsSetFrom rank items) ∧
    buildSet rank (collect pre) = clsSetFrom rank [] := by
  simp only [collect_with_notations _ _ _ hp hq, collect_notations_only _ hp,
    collect_notations pre [.collator, _] post hp hq]
  exact ⟨fun vs => by cases vs <;> rfl, fun _ => rfl, fun _ => rfl, fun vs => by cases vs <;> rfl, fun _ => rfl,
    fun _ => rfl, rfl⟩

/-- a parsed set is strictly ascending under the collator; adding its values
    one at a time to an empty set rebuilds exactly that sequence -/
theorem set_source_is_parse (rank : α → α → Rank) (h : TotalPreorder rank) (items : List α)
    (hs : SetM.SSorted rank items) : clsSetFrom rank items = some (.ok { items := items }) := by
  simp only [clsSetFrom, SetM.makeFrom, SetM.addValues_eq rank h items [] (SetM.ssorted_nil rank),
    SetM.insAll_append_sorted h items [] (by simpa using hs), List.nil_append]

end

section keyed
variable {K V : Type} [DecidableEq K]
open CM.Assoc

/-- **C20, Catalog**: Go array, Go map, sequence and source build what the class constructor builds from the same pairs. -/
theorem C20_catalog (pre post : List (Arg (K × V))) (hp : AllNotation pre) (hq : AllNotation post) :
    (∀ ps, buildCatalog (collect (pre ++ [.goarray ps] ++ post)) = clsCatalogFrom ps) ∧
    (∀ ps, buildCatalog (collect (pre ++ [.gomap ps] ++ post)) = clsCatalogFrom ps) ∧
    (∀ ps, buildCatalog (collect (pre ++ [.sequence ps] ++ post)) = clsCatalogFrom ps) ∧
    (∀ ps, buildCatalog (collect (pre ++ [.source ps] ++ post)) = clsCatalogFrom ps) ∧
    buildCatalog (collect pre) = clsCatalogFrom ([] : List (K × V)) := by
  simp only [collect_with_notations _ _ _ hp hq, collect_notations_only _ hp]
  exact ⟨fun ps => by cases ps <;> rfl, fun ps => by cases ps <;> rfl, fun _ => rfl, fun _ => rfl, rfl⟩

/-- **C20, Map**: as for Catalog. -/
theorem C20_map (pre post : List (Arg (K × V))) (hp : AllNotation pre) (hq : AllNotation post) :
    (∀ ps, buildMap (collect (pre ++ [.goarray ps] ++ post)) = clsMapFrom ps) ∧
    (∀ ps, buildMap (collect (pre ++ [.gomap ps] ++ post)) = clsMapFrom ps) ∧
    (∀ ps, buildMap (collect (pre ++ [.sequence ps] ++ post)) = clsMapFrom ps) ∧
    (∀ ps, buildMap (collect (pre ++ [.source ps] ++ post)) = clsMapFrom ps) ∧
    buildMap (collect pre) = clsMapFrom ([] : List (K × V)) := by
  simp only [collect_with_notations _ _ _ hp hq, collect_notations_only _ hp]
  exact ⟨fun ps => by cases ps <;> rfl, fun ps => by cases ps <;> rfl, fun _ => rfl, fun _ => rfl, rfl⟩

/-- a parsed catalog has distinct keys; rebuilding it pair by pair gives the
    same associations in the same order -/
theorem catalog_source_is_parse : ∀ (ps : List (K × V)), NodupKeys ps →
    (clsCatalogFrom ps).items = ps :=
  fun ps hn => (catMakeFrom_spec ps).2.trans (mapMakeFrom_fresh hn)

/-- a parsed map has distinct keys; rebuilding it entry by entry gives the same entries -/
theorem map_source_is_parse : ∀ (ps : List (K × V)), NodupKeys ps → (clsMapFrom ps).items = ps :=
  fun _ hn => mapMakeFrom_fresh hn

end keyed

section assoc

def NotationsOnly (l : List (AArg α)) : Prop := ∀ x ∈ l, x.isNotation = true

theorem assocCollect_skip (s : AState α) : ∀ (n l : List (AArg α)), NotationsOnly n →
    assocCollect s (n ++ l) = assocCollect s l
  | [], _, _ => rfl
  | x :: n, l, h => by
    have hx : x.isNotation = true := h x List.mem_cons_self
    simp only [List.cons_append, assocCollect, assocStore, hx, if_true]
    exact assocCollect_skip s n l fun y hy => h y (List.mem_cons_of_mem _ hy)

theorem assocCollect_cons {s s' : AState α} {a : AArg α} (h : assocStore s a = .ok s') (l : List (AArg α)) :
    assocCollect s (a :: l) = assocCollect s' l := by
  simp only [assocCollect, h]

/-- **C20, Association**: whatever the two types are — disjoint, overlapping or
    identical (then every argument is both a K and a V) — and wherever notation
    arguments stand, `Association(k, v)` has key `k` and value `v`. -/
theorem C20_association (n1 n2 n3 : List (AArg α)) (k v : AArg α)
    (h1 : NotationsOnly n1) (h2 : NotationsOnly n2) (h3 : NotationsOnly n3)
    (hk : k.isNotation = false ∧ k.isK = true) (hv : v.isNotation = false ∧ v.isV = true) :
    assocCollect {} (n1 ++ [k] ++ n2 ++ [v] ++ n3) =
      .ok { key := some k.val, value := some v.val, hasKey := true } := by
  have ek : assocStore ({} : AState α) k = .ok { key := some k.val, hasKey := true } := by
    cases hkv : k.isV <;> simp [assocStore, hk.1, hk.2, hkv]
  have ev : assocStore ({ key := some k.val, hasKey := true } : AState α) v =
      .ok { key := some k.val, value := some v.val, hasKey := true } := by
    cases hvk : v.isK <;> simp [assocStore, hv.1, hv.2, hvk]
  simp only [List.append_assoc, List.cons_append, List.nil_append]
  rw [assocCollect_skip _ _ _ h1, assocCollect_cons ek, assocCollect_skip _ _ _ h2, assocCollect_cons ev,
    ← List.append_nil n3, assocCollect_skip _ _ _ h3]
  rfl

/-- the defect that was repaired (D20c), kept as a theorem about the *old*
    dispatch: with identical types every argument took the `case K` branch, so
    the second argument overwrote the key and the value stayed zero. -/
def assocStoreOld (s : AState α) (a : AArg α) : AState α :=
  if a.isK then { s with key := some a.val, hasKey := true }
  else if a.isV then { s with value := some a.val }
  else s

theorem D20c_old_dispatch_loses_value (k v : AArg α) (hk : k.isK = true) (hv : v.isK = true) :
    ([k, v].foldl assocStoreOld {}) = { key := some v.val, value := none, hasKey := true } := by
  simp [assocStoreOld, hk, hv]

end assoc

/-! ### non-vacuity: concrete instances of the hypotheses -/

example : buildStack 16 (collect [Arg.notation, Arg.source [3, 1, 2], Arg.notation])
    = some (.ok ({ items := [3, 1, 2], cap := some 16 } : Built Nat)) := by
  obtain ⟨-, -, -, source, -⟩ := C20_stack (α := Nat) 16 [Arg.notation] [Arg.notation] (by intro x hx; simpa using hx)
    (by intro x hx; simpa using hx)
  simpa [clsStackFrom, Stack.makeFrom, makeFromSequence_spec] using source [3, 1, 2]

example : assocCollect ({} : AState Nat)
    [⟨true, true, true, 0⟩, ⟨false, true, true, 7⟩, ⟨false, true, true, 9⟩] =
      .ok { key := some 7, value := some 9, hasKey := true } := by
  simp [assocCollect, assocStore]

end CM
