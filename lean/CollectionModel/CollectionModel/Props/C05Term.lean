/-
  C05, second sentence — every well-formed producer/consumer program terminates:
  all producers finish, the queue is then closed, consumers read until ok = false; under
  EVERY schedule the program ends with every goroutine finished and every value consumed.

  Proved for any capacity ≥ 1, any number of producers with any value lists, any number
  ≥ 1 of consumers, and any number ≥ 1 of closers racing to close once.
-/
import CollectionModel.Model.QProg
import CollectionModel.Props.C04
import CollectionModel.Lemmas.Steps
namespace CM
open CM.QProg

variable {α : Type}

/-- the potential sees the thread list only through the weights -/
theorem potential_move {s s' : PS α} {t : Nat} {a b : T α} (h : s.threads[t]? = some a)
    (hth : s'.threads = s.threads.set t b) (hc : s'.closed = s.closed)
    (hw : weight b + 4 * s'.vals.length + 3 * s'.tokens < weight a + 4 * s.vals.length + 3 * s.tokens) :
    potential s' < potential s := by
  have := sum_map_set weight s.threads t a b h
  simp only [potential, hth, hc, Nat.add_lt_add_iff_right]; omega

/-- **every step lowers the potential**.  The weights follow a value on its way: 10 while a producer still has to add
    it; 8 once appended (4 in `vals`, 4 on the producer that owes the token); 7 once the token is sent (4 + 3); 5 once a
    consumer holds the token (4, and the consumer weighs 3 instead of 2); 0 once popped (the consumer is back at 2).  A
    consumer's last receive, which finds the queue closed, is worth its 2, and the close the 1 of an open queue. -/
theorem C05_step_decreases (s s' : PS α) (h : Step s s') : potential s' < potential s := by
  cases h with
  | prodAppend t v r h => exact potential_move h rfl rfl (by simp [weight]; omega)
  | prodSend t r h h2 h3 => exact potential_move h rfl rfl (by simp [weight]; omega)
  | consRecv t h h2 => exact potential_move h rfl rfl (by simp [weight]; omega)
  | consRecvClosed t h h2 h3 => exact potential_move h rfl rfl (by simp [weight])
  | consPop t x xs h h2 => exact potential_move h rfl rfl (by simp [weight, h2]; omega)
  | close t h h2 h3 => simp [potential, h3]

theorem QProg.Run.steps {n : Nat} {s u : PS α} (h : Run s n u) : Steps Step s n u := by
  induction h with
  | nil => exact .zero _
  | cons hst _ ih => exact .succ hst ih

/-- **no infinite run**: a run of n steps exists only if n ≤ potential of its first state -/
theorem C05_run_bounded : ∀ (n : Nat) (s u : PS α), Run s n u → n + potential u ≤ potential s :=
  fun _ _ _ h => (Steps.bounded (I := fun _ => True) (μ := potential) (fun _ _ _ _ => trivial)
    (fun s t _ => C05_step_decreases s t) h.steps trivial).2

structure PInv (s : PS α) : Prop where
  acct : s.vals.length = s.tokens + s.threads.countP isClaimed + s.threads.countP isSending
  capOk : s.tokens ≤ s.cap
  ghost : s.appended = s.popped ++ s.vals
  closedDone : s.closed = true → allProducersDone s = true
  finClosed : s.threads.any isFin = true → s.closed = true ∧ s.tokens = 0
  finUnclaimed : ∀ x ∈ s.threads, isFin x = true → isClaimed x = false

theorem toQ_get {s : PS α} {t : Nat} {a : T α} (h : s.threads[t]? = some a) : (toQ s).threads[t]? = some (pcOf a) := by
  simp only [toQ, List.getElem?_map, h, Option.map_some]

/-- operations the program enters and leaves in one step (receive, close) are a call event and the event proper -/
theorem step_sim [DecidableEq α] (s s' : PS α) (h : Step s s') :
    ∃ evs : List (Q.Ev α), evs.length ≤ 2 ∧ Q.run (toQ s) evs = some (toQ s') ∧
      evs.all (fun e => !e.isSendPanic && !e.isRemoveAll) = true := by
  cases h with
  | prodAppend t v r h =>
    refine ⟨[.call t (.addLock v), .addLock t], Nat.le_refl 2, ?_, rfl⟩
    refine Q.run_call (toQ_get h) ⟨nofun, nofun, nofun⟩ (Q.step_iff.mpr ⟨v, Q.setPC_get (toQ_get h) _, ?_⟩)
    simp only [toQ, Q.setPC, List.map_set, List.set_set, pcOf]
  | prodSend t r h h2 h3 =>
    refine ⟨[.addSend t], Nat.le_succ 1, Q.run_cons_eq [] (Q.step_iff.mpr ⟨⟨toQ_get h, h2, h3⟩, ?_⟩), rfl⟩
    simp only [toQ, Q.setPC, List.map_set, pcOf]
  | consRecv t h h2 =>
    refine ⟨[.call t .remRecv, .remRecv t true], Nat.le_refl 2, ?_, rfl⟩
    refine Q.run_call (toQ_get h) ⟨nofun, nofun, nofun⟩ (Q.step_iff.mpr ⟨⟨Q.setPC_get (toQ_get h) _, h2⟩, ?_⟩)
    simp only [toQ, Q.setPC, List.map_set, List.set_set, pcOf]
  | consRecvClosed t h h2 h3 =>
    refine ⟨[.call t .remRecv, .remRecv t false], Nat.le_refl 2, ?_, rfl⟩
    refine Q.run_call (toQ_get h) ⟨nofun, nofun, nofun⟩ (Q.step_iff.mpr ⟨⟨Q.setPC_get (toQ_get h) _, h2, h3⟩, ?_⟩)
    simp only [toQ, Q.setPC, List.map_set, List.set_set, pcOf]
  | consPop t x xs h h2 =>
    refine ⟨[.remLock t x], Nat.le_succ 1, Q.run_cons_eq [] (Q.step_iff.mpr ⟨xs, ⟨toQ_get h, h2⟩, ?_⟩), rfl⟩
    simp only [toQ, Q.setPC, List.map_set, pcOf]
  | close t h h2 h3 =>
    refine ⟨[.call t .closeLock, .closeLock t], Nat.le_refl 2, ?_, rfl⟩
    refine Q.run_call (toQ_get h) ⟨nofun, nofun, nofun⟩ (Q.step_iff.mpr ⟨⟨Q.setPC_get (toQ_get h) _, h3⟩, ?_⟩)
    have hidle : (toQ s).threads[t]? = some .idle := toQ_get h
    rw [Q.setPC_setPC, Q.setPC_self hidle]; rfl

/-- every program step is one or two events of the queue model of `Queue.lean` (the call
    event that enters the operation, then its synchronisation step): the program model adds
    nothing to the protocol -/
theorem C05_steps_are_queue_steps [DecidableEq α] (s s' : PS α) (h : Step s s') :
    ∃ evs : List (Q.Ev α), evs.length ≤ 2 ∧ Q.run (toQ s) evs = some (toQ s') :=
  let ⟨evs, hl, hr, _⟩ := step_sim s s' h
  ⟨evs, hl, hr⟩

theorem toQ_inv (s : PS α) : Q.QInv (toQ s) ↔
    s.vals.length = s.tokens + s.threads.countP isClaimed + s.threads.countP isSending ∧ s.tokens ≤ s.cap ∧
      s.appended = s.popped ++ s.vals := by
  have c : ∀ x : T α, Q.isClaimed (pcOf x) = isClaimed x := by rintro (⟨_, _ | _⟩ | ⟨_ | _, _⟩ | _) <;> rfl
  have d : ∀ x : T α, Q.isSending (pcOf x) = isSending x := by rintro (⟨_, _ | _⟩ | ⟨_ | _, _⟩ | _) <;> rfl
  simp only [Q.QInv, Q.cnt, toQ, List.countP_map, Function.comp_def, c, d]

theorem PInv.toQ {s : PS α} (hi : PInv s) : Q.QInv (toQ s) := (toQ_inv s).mpr ⟨hi.acct, hi.capOk, hi.ghost⟩

theorem step_pinv (s s' : PS α) (hi : PInv s) (h : Step s s') : PInv s' := by
  -- accounting, capacity and ghost clauses are inherited from the queue model through the simulation
  -- (`classical`: the model's `step` compares values, the invariant does not)
  classical
  obtain ⟨evs, -, hrun, hev⟩ := step_sim s s' h
  obtain ⟨acct, capOk, ghost⟩ := (toQ_inv s').mp (C04_inv_reachable evs _ _ hi.toQ (validFrom_of_plain evs _ hev) hrun)
  -- replacing thread `t` by `b`: the three clauses about the thread list, each through `List.mem_or_eq_of_mem_set`
  have fu : ∀ (t : Nat) (b : T α), (isFin b = true → isClaimed b = false) →
      ∀ x ∈ s.threads.set t b, isFin x = true → isClaimed x = false :=
    fun t b hb x hx => (List.mem_or_eq_of_mem_set hx).elim (hi.finUnclaimed x) (fun e => e ▸ hb)
  have fc : ∀ (t : Nat) (b : T α), isFin b = false → (s.threads.set t b).any isFin = true → s.closed = true ∧ s.tokens = 0 := by
    intro t b hb hf
    obtain ⟨x, hx, hp⟩ := List.any_eq_true.mp hf
    rcases List.mem_or_eq_of_mem_set hx with hm | rfl
    · exact hi.finClosed (List.any_eq_true.mpr ⟨x, hm, hp⟩)
    · rw [hb] at hp; cases hp
  have cd : ∀ (t : Nat) (b : T α), prodDone b = true → s.closed = true → (s.threads.set t b).all prodDone = true :=
    fun t b hb hc => List.all_eq_true.mpr fun x hx =>
      (List.mem_or_eq_of_mem_set hx).elim (List.all_eq_true.mp (hi.closedDone hc) x) (fun e => e ▸ hb)
  cases h with
  | prodAppend t v r h =>
    -- a closed queue has no producer left with work: this step is then impossible
    have hopen : s.closed = true → False := fun hc =>
      nomatch List.all_eq_true.mp (hi.closedDone hc) _ (List.mem_of_getElem? h)
    exact ⟨acct, capOk, ghost, fun hc => (hopen hc).elim, fun hf => (hopen (fc t _ rfl hf).1).elim, fu t _ nofun⟩
  | prodSend t r h h2 h3 =>
    exact ⟨acct, capOk, ghost, fun hc => (nomatch h2.symm.trans hc), fun hf => (nomatch h2.symm.trans (fc t _ rfl hf).1),
      fu t _ nofun⟩
  | consRecv t h h2 =>
    exact ⟨acct, capOk, ghost, cd t _ rfl, fun hf => absurd (fc t _ rfl hf).2 (Nat.ne_of_gt h2), fu t _ nofun⟩
  | consRecvClosed t h h2 h3 => exact ⟨acct, capOk, ghost, cd t _ rfl, fun _ => ⟨h3, h2⟩, fu t _ fun _ => rfl⟩
  | consPop t x xs h h2 => exact ⟨acct, capOk, ghost, cd t _ rfl, fc t _ rfl, fu t _ nofun⟩
  | close t h h2 h3 =>
    exact ⟨acct, capOk, ghost, fun _ => h2, fun hf => (nomatch h3.symm.trans (hi.finClosed hf).1), hi.finUnclaimed⟩

theorem init_pinv (cap : Nat) (producers : List (List α)) (consumers : Nat) :
    PInv (initial cap producers consumers) := by
  have fresh : ∀ x ∈ (initial cap producers consumers).threads,
      isClaimed x = false ∧ isSending x = false ∧ isFin x = false := by
    intro x hx
    simp only [initial, List.mem_append, List.mem_map, List.mem_replicate, List.mem_singleton] at hx
    rcases hx with (⟨vs, _, rfl⟩ | ⟨_, rfl⟩) | rfl <;> exact ⟨rfl, rfl, rfl⟩
  refine ⟨?_, Nat.zero_le _, rfl, nofun, fun h => ?_, fun x hx _ => (fresh x hx).1⟩
  · rw [countP_eq_zero_of_false fun x hx => (fresh x hx).1, countP_eq_zero_of_false fun x hx => (fresh x hx).2.1]
    rfl
  · obtain ⟨x, hx, hf⟩ := List.any_eq_true.mp h
    rw [(fresh x hx).2.2] at hf; cases hf

theorem reach_pinv (s0 s : PS α) (h0 : PInv s0) (h : Reach s0 s) : PInv s := by
  induction h with
  | init => exact h0
  | step _ hst ih => exact step_pinv _ _ ih hst

theorem step_roles (s s' : PS α) (h : Step s s') :
    s'.cap = s.cap ∧ (s.threads.any isCons = true → s'.threads.any isCons = true) ∧
    (s.threads.any isCloser = true → s'.threads.any isCloser = true) := by
  cases h with
  | prodAppend t _ _ h | prodSend t _ h _ _ | consRecv t h _ | consRecvClosed t h _ _ | consPop t _ _ h _ =>
    exact ⟨rfl, fun hc => (any_set_congr h (by rfl)).trans hc, fun hc => (any_set_congr h (by rfl)).trans hc⟩
  | close t h h2 h3 => exact ⟨rfl, id, id⟩

theorem consumer_moves (s : PS α) (hi : PInv s) {t : Nat} {claimed : Bool}
    (hget : s.threads[t]? = some (.cons claimed false)) (hen : 0 < s.tokens ∨ s.closed = true) : ∃ s', Step s s' := by
  cases claimed with
  | true =>
    cases hv : s.vals with
    | nil => exact absurd hv (Q.claimed_vals_ne_nil hi.toQ (toQ_get hget))
    | cons y ys => exact ⟨_, .consPop s t y ys hget hv⟩
  | false =>
    by_cases htok : 0 < s.tokens
    · exact ⟨_, .consRecv s t hget htok⟩
    · exact ⟨_, .consRecvClosed s t hget (Nat.eq_zero_of_not_pos htok) (hen.resolve_left htok)⟩

/-- **no lost wake-up at program level**: in every state satisfying the invariant, with capacity
    ≥ 1, at least one consumer and at least one closer, either every goroutine has finished or
    some goroutine can take a step -/
theorem C05_no_deadlock (s : PS α) (hi : PInv s) (hcap : 1 ≤ s.cap)
    (hcons : s.threads.any isCons = true) (hclo : s.threads.any isCloser = true) :
    AllFinished s ∨ ∃ s', Step s s' := by
  by_cases hpd : s.threads.all prodDone = true
  · -- every producer has finished
    by_cases hcl : s.closed = true
    · by_cases hd : s.threads.all threadDone = true
      · exact .inl ⟨hcl, hd⟩
      · -- a thread that has not finished is then a consumer, and the queue is closed
        obtain ⟨t, x, hget, hx⟩ := exists_index_of_not_all hd
        have hpx := List.all_eq_true.mp hpd x (List.mem_of_getElem? hget)
        match x, hget, hx, hpx with
        | .prod [] false, _, hx, _ => cases hx
        | .prod [] true, _, _, hpx | .prod (_ :: _) _, _, _, hpx => cases hpx
        | .cons claimed false, hget, _, _ => exact .inr (consumer_moves s hi hget (.inr hcl))
    · -- a closer closes
      obtain ⟨t, x, hget, hx⟩ := exists_index_of_any hclo
      cases x with
      | closer => exact .inr ⟨_, .close s t hget hpd (Bool.eq_false_iff.mpr hcl)⟩
      | prod _ _ => cases hx
      | cons _ _ => cases hx
  · -- some producer still has work, so the queue is open
    have hopen : s.closed = false := Bool.eq_false_iff.mpr fun hc => hpd (hi.closedDone hc)
    obtain ⟨t, x, hget, hx⟩ := exists_index_of_not_all hpd
    match x, hget, hx with
    | .prod [] false, _, hx => cases hx
    | .prod (v :: r) false, hget, _ => exact .inr ⟨_, .prodAppend s t v r hget⟩
    | .prod todo true, hget, _ =>
      by_cases hroom : s.tokens < s.cap
      · exact .inr ⟨_, .prodSend s t todo hget hopen hroom⟩
      · -- the queue is full: a consumer receives; none has finished, since that needs a closed queue
        obtain ⟨u, c, hgetu, hc⟩ := exists_index_of_any hcons
        rcases c with _ | ⟨claimed, fin⟩ | _
        · cases hc
        · cases fin with
          | true =>
            have := (hi.finClosed (List.any_eq_true.mpr ⟨_, List.mem_of_getElem? hgetu, rfl⟩)).1
            rw [hopen] at this; cases this
          | false => exact .inr (consumer_moves s hi hgetu (.inl (Nat.lt_of_lt_of_le hcap (Nat.not_lt.mp hroom))))
        · cases hc

/-- **every value consumed**: when every goroutine has finished (and there was a consumer) the
    queue is empty, holds no token, and what was popped is exactly what was appended, in order -/
theorem C05_final_consumed (s : PS α) (hi : PInv s) (hcons : s.threads.any isCons = true) (hf : AllFinished s) :
    s.vals = [] ∧ s.tokens = 0 ∧ s.popped = s.appended := by
  obtain ⟨hcl, hd⟩ := hf
  rw [List.all_eq_true] at hd
  -- a finished thread holds neither a token nor an unannounced value
  have idle : ∀ x ∈ s.threads, isClaimed x = false ∧ isSending x = false := by
    intro x hx
    match x, hd x hx, hi.finUnclaimed x hx with
    | .prod [] false, _, _ => exact ⟨rfl, rfl⟩
    | .cons _ true, _, hu => exact ⟨hu rfl, rfl⟩
    | .closer, _, _ => exact ⟨rfl, rfl⟩
  -- some consumer has finished, so the queue is closed and no token is left
  have hfin : s.threads.any isFin = true := by
    obtain ⟨c, hc, hcc⟩ := List.any_eq_true.mp hcons
    refine List.any_eq_true.mpr ⟨c, hc, ?_⟩
    match c, hcc, hd c hc with
    | .cons _ true, _, _ => rfl
  have htok := (hi.finClosed hfin).2
  have hlen := hi.acct
  rw [htok, countP_eq_zero_of_false fun x hx => (idle x hx).1, countP_eq_zero_of_false fun x hx => (idle x hx).2] at hlen
  have hv : s.vals = [] := List.eq_nil_of_length_eq_zero hlen
  have := hi.ghost
  rw [hv, List.append_nil] at this
  exact ⟨hv, htok, this.symm⟩

theorem reach_shape (cap : Nat) (producers : List (List α)) (consumers : Nat) (hc : 1 ≤ consumers) (s : PS α)
    (hr : Reach (initial cap producers consumers) s) :
    s.cap = cap ∧ s.threads.any isCons = true ∧ s.threads.any isCloser = true := by
  induction hr with
  | init =>
    refine ⟨rfl, ?_, ?_⟩
    · simp only [initial, List.any_append, List.any_replicate]
      have : consumers ≠ 0 := Nat.ne_of_gt hc
      simp [isCons, this]
    · simp [initial, isCloser]
  | step _ hst ih =>
    obtain ⟨c1, c2, c3⟩ := ih
    exact ⟨by rw [(step_roles _ _ hst).1, c1], (step_roles _ _ hst).2.1 c2, (step_roles _ _ hst).2.2 c3⟩

/-- **every well-formed producer/consumer program terminates with everything consumed**:
    from the initial state of a program with capacity ≥ 1, any producers, at least one
    consumer and a closer, under every schedule
      (1) no run is longer than the initial potential,
      (2) a reachable state in which no thread can step has every goroutine finished,
      (3) and then the queue is empty and exactly the appended values were popped, in order. -/
theorem C05_program_terminates (cap : Nat) (hcap : 1 ≤ cap) (producers : List (List α)) (consumers : Nat)
    (hc : 1 ≤ consumers) (s : PS α) (hr : Reach (initial cap producers consumers) s) :
    (∀ n u, Run (initial cap producers consumers) n u → n ≤ potential (initial cap producers consumers)) ∧
    ((¬ ∃ s', Step s s') → AllFinished s ∧ s.vals = [] ∧ s.tokens = 0 ∧ s.popped = s.appended) := by
  constructor
  · intro n u hrun
    exact Nat.le_trans (Nat.le_add_right ..) (C05_run_bounded n _ u hrun)
  · intro hstuck
    have hi := reach_pinv _ s (init_pinv cap producers consumers) hr
    have shape := reach_shape cap producers consumers hc s hr
    rcases C05_no_deadlock s hi (by rw [shape.1]; exact hcap) shape.2.1 shape.2.2 with hfin | hstep
    · exact ⟨hfin, C05_final_consumed s hi shape.2.1 hfin⟩
    · exact absurd hstep hstuck

end CM
