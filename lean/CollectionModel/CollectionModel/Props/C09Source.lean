/-
  C09 on the source as it is written: the theorems of Props/C09.lean carried over to the
  definitions TRANSLATED from sorter.go on every run (Generated/LoopsSorter.lean) through the
  refinement theorems of Tie/LoopsSorter.lean.
-/
import CollectionModel.Tie.LoopsSorter
import CollectionModel.Props.C09
namespace CM
open CM.GoSem CM.Sorter CM.Tie

variable {α : Type} [Inhabited α]

theorem sortValuesM_pure (rank : α → α → Rank) (xs : List α) :
    sortValuesM (pureRanker rank) () xs = (sortValues rank xs, ()) := sortLoopM_pure rank _ _ _

/-- **SortValues as written in sorter.go terminates and leaves a permutation, for every ranking function** –
    stateful, random or inconsistent – and every array of fewer than 2^61 values; no other array is touched -/
theorem C09_source_sort_perm {σ : Type} (ranker : σ → α → α → Rank × σ) (mem : Mem α) (a : Nat) (w : σ) (fuel : Nat)
    (ha : a < mem.length) (hint : IsInt64 (4 * ((mem.arr a).length : Int) + 4)) (hfuel : 2 * (mem.arr a).length + 4 ≤ fuel) :
    ∃ mem' w', Generated.sortValues ranker (whole a (mem.arr a).length) mem w fuel = some (.ok (mem', w'))
      ∧ (mem'.arr a).Perm (mem.arr a) ∧ ∀ c, c < mem.length → c ≠ a → mem'.arr c = mem.arr c := by
  obtain ⟨mem', h1, h2, h3⟩ := sortValues_tie ranker mem a w fuel ha hint hfuel
  exact ⟨mem', _, h1, by rw [h2]; exact C09_sort_perm_any_ranker ranker w (mem.arr a), h3⟩

/-- **… and when the ranker is a total preorder the array ends up ascending** -/
theorem C09_source_sort_ascending (rank : α → α → Rank) (hr : TotalPreorder rank) (mem : Mem α) (a : Nat) (fuel : Nat)
    (ha : a < mem.length) (hint : IsInt64 (4 * ((mem.arr a).length : Int) + 4)) (hfuel : 2 * (mem.arr a).length + 4 ≤ fuel) :
    ∃ mem', Generated.sortValues (pureRanker rank) (whole a (mem.arr a).length) mem () fuel = some (.ok (mem', ()))
      ∧ mem'.arr a = sortValues rank (mem.arr a)
      ∧ (mem'.arr a).Pairwise (fun x y => rank x y ≠ .gt) ∧ (mem'.arr a).Perm (mem.arr a) := by
  obtain ⟨mem', h1, h2, _⟩ := sortValues_tie (pureRanker rank) mem a () fuel ha hint hfuel
  rw [sortValuesM_pure] at h1 h2
  exact ⟨mem', h1, h2, by rw [h2]; exact C09_sort_ascending rank hr _, by rw [h2]; exact C09_sort_perm rank _⟩

/-- **ReverseValues as written in sorter.go reverses exactly** -/
theorem C09_source_reverse (mem : Mem α) (p : Nat) (fuel : Nat) (hp : p < mem.length)
    (hint : IsInt64 (((mem.arr p).length : Int) + 1)) (hfuel : (mem.arr p).length / 2 < fuel) :
    Generated.reverseValues (whole p (mem.arr p).length) mem fuel = some (.ok (mem.setArr p (mem.arr p).reverse)) := by
  rw [reverseValues_tie mem p fuel hp hint hfuel, C09_reverse]

/-- **ShuffleValues as written in sorter.go yields a permutation** whenever `randomizeIndex` answers within `[0, size)` -/
theorem C09_source_shuffle_perm {σ : Type} (rnd : σ → Int → Int × σ) (mem : Mem α) (p : Nat) (w : σ) (fuel : Nat) (hp : p < mem.length)
    (hint : IsInt64 (((mem.arr p).length : Int) + 1)) (hfuel : (mem.arr p).length < fuel)
    (hr : ∀ w, 0 ≤ (rnd w ((mem.arr p).length : Int)).1 ∧ (rnd w ((mem.arr p).length : Int)).1 < ((mem.arr p).length : Int)) :
    ∃ mem' w', Generated.shuffleValues rnd (whole p (mem.arr p).length) mem w fuel = some (.ok (mem', w'))
      ∧ (mem'.arr p).Perm (mem.arr p) := by
  refine ⟨_, _, shuffleValues_tie rnd mem p w fuel hp hint hfuel hr, ?_⟩
  rw [arr_setArr_same _ _ _ hp]
  exact C09_shuffle_perm _ _ (by rw [randList_length]; exact Nat.le_refl _) (randList_lt rnd _ hr _ w)

end CM
