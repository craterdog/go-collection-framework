/-
  C03, continued — the executable specification `catAllowed` (the one that judges the real
  catalog's observations in the check) accepts every call of the model: one refinement
  theorem in the style of C01 / C02 / C13, for every catalog satisfying the invariant,
  every operation and every total-preorder ranker.
-/
import CollectionModel.Props.C03
import CollectionModel.Props.C16
namespace CM
open CM.Assoc CM.Seq CM.Sorter

variable {K V : Type} [DecidableEq K] [Inhabited K] [Inhabited V] [DecidableEq V]

/-- operations whose arguments are well formed: shuffle indices in range, Merge's first operand
    is a catalog's content (distinct keys) -/
def Assoc.COp.wf2 (c : Cat K V) : COp K V → Prop
  | .shuffle rs => rs.length ≤ c.assocs.length ∧ ∀ r ∈ rs, r < c.assocs.length
  | .merge a _ => NodupKeys a
  | _ => True

omit [Inhabited K] [Inhabited V] in
/-- what `catAllowed` asks of a returning call: the new state is coherent, the result is the expected one and
    the list is the specified one -/
theorem allowed_of {co : Bool} {r r' : ARes K V} {l l' : List (K × V)} (hco : co = true) (hr : r = r') (hl : l = l') :
    (co && (r == r' && l == l')) = true := by
  rw [hco, hr, hl, beq_self_eq_true, beq_self_eq_true]; rfl

/-- **insertion-ordered-map refinement, one step** -/
theorem C03_step_refines (rank : (K × V) → (K × V) → Rank) (hr : TotalPreorder rank) (c : Cat K V) (h : CatInv c)
    (op : COp K V) (hwf : op.wf2 c) : catAllowed rank c op (catStep rank c op) = true := by
  -- `coherent` accepts the new state because the invariant holds of it; each case is then the equation for the list
  have hco := coherent_of_inv _ (C03_step_inv rank c h op (by cases op with | shuffle rs => exact hwf | _ => trivial))
  cases op with
  | setValue k v => exact allowed_of hco rfl (by rw [catSetValue_eq h, specSet_eq_mset])
  | getValue k => exact allowed_of hco (by rw [catGetValue, h.same]) rfl
  | getValues ks => exact allowed_of hco (congrArg _ (List.map_congr_left fun k _ => by rw [catGetValue, h.same])) rfl
  | removeValue k =>
    dsimp only [catStep] at hco ⊢; rw [catRemoveValue_eq h] at hco ⊢
    exact allowed_of hco rfl rfl
  | removeValues ks =>
    dsimp only [catStep] at hco ⊢; rw [catRemoveValues_eq ks h] at hco ⊢
    exact allowed_of hco rfl rfl
  | removeAll => exact Bool.and_eq_true_iff.mpr ⟨hco, rfl⟩
  | sort =>
    -- here the list is asked to be a permutation of the old one, and ascending
    refine Bool.and_eq_true_iff.mpr
      ⟨hco, Bool.and_eq_true_iff.mpr ⟨Bool.and_eq_true_iff.mpr ⟨rfl, List.isPerm_iff.mpr ?_⟩, ?_⟩⟩
    · exact arraySort_eq rank _ ▸ sortValues_perm rank _
    · exact arraySort_eq rank _ ▸ ascending_of_asc rank _ (sortValues_asc rank hr _)
  | reverse => exact allowed_of hco rfl (reverseValues_eq c.assocs)
  | shuffle rs =>
    exact Bool.and_eq_true_iff.mpr
      ⟨hco, Bool.and_eq_true_iff.mpr ⟨rfl, List.isPerm_iff.mpr (shuffleValues_perm rs c.assocs hwf.1 hwf.2)⟩⟩
  | make ps => exact allowed_of hco rfl (by simp only [(catMakeFrom_spec ps).2, mapMakeFrom, specSet_eq_mset])
  | merge a b => exact allowed_of hco rfl (catMerge_assocs a b hwf)
  | extract src ks => exact allowed_of hco rfl (C16_extract src ks).2.2
  | getKeys | asArray | iterate | getSize | isEmpty => exact allowed_of hco rfl rfl

end CM
