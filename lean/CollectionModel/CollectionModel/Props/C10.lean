/-
  C10 — CDCN round trip: parsing formatted output reproduces value and text.

  Proved here: FormatValue is total (it returns for every value, however deep or wide, with
  fuel linear in the size of the value), elides at the limit, and is a pure function of its
  argument.  The round-trip equation over the three executable models (formatter, scanner,
  parser) is proved in Props/C10Round.lean (`C10_roundtrip`); `C10_roundtrip_statement`
  below is the earlier, existential form of the statement, kept for reference.
-/
import CollectionModel.Model.Cdcn.Format
import CollectionModel.Model.Cdcn.Parse
import CollectionModel.Lemmas.FormatLemmas
namespace CM
open CM.Cdcn

mutual
/-- number of nodes of a value as the formatter walks it -/
def fsize : Val → Nat
  | .arr _ _ xs => 1 + fsizeList xs
  | .coll _ xs => 1 + fsizeList xs
  | .gomap _ _ es => 1 + fsizeEntries es
  | .assoc k v => 1 + fsize k + fsize v
  | _ => 1
def fsizeList : List Val → Nat
  | [] => 0
  | x :: xs => fsize x + fsizeList xs
def fsizeEntries : List (Val × Val) → Nat
  | [] => 0
  | (k, v) :: es => 1 + fsize k + fsize v + fsizeEntries es
end

theorem fsize_pos (v : Val) : 1 ≤ fsize v := by
  cases v with
  | arr | coll | gomap => exact Nat.le_add_right 1 _
  | assoc k x => exact Nat.le_trans (Nat.le_add_right 1 _) (Nat.le_add_right _ _)
  | _ => exact Nat.le_refl 1

theorem fsizeList_map_assoc (es : List (Val × Val)) :
    fsizeList (es.map fun e => Val.assoc e.1 e.2) = fsizeEntries es := by
  induction es with
  | nil => rfl
  | cons e es ih => exact congrArg (1 + fsize e.1 + fsize e.2 + ·) ih

theorem fsize_coll {v : Val} (h : ctxName v ≠ []) : fsize v = 1 + fsizeList (itemsOf v) := by
  obtain ⟨_, _, _, rfl⟩ | ⟨_, _, rfl⟩ | ⟨_, _, _, rfl⟩ := ctxName_ne_nil.mp h
  · rfl
  · rfl
  · exact congrArg (1 + ·) (fsizeList_map_assoc _).symm

def Cdcn.FOut.returns : FOut → Prop
  | .hang => False
  | _ => True

theorem Cdcn.FOut.bind_returns {o : FOut} {k : List Nat → FOut} (h1 : o.returns) (h2 : ∀ t, (k t).returns) : (o.bind k).returns := by
  cases o <;> simp_all [FOut.bind, FOut.returns]

variable (leafText : Val → Option (List Nat)) (max : Nat)

/-- proved together because the three functions call one another with one unit of fuel less; a node costs three
    units: `fmtValue`, `fmtItems`, `fmtLines` -/
theorem returns_all (f : Nat) :
    (∀ (v : Val) (d : Nat), 3 * fsize v + 1 ≤ f → (fmtValue leafText max f d v).returns) ∧
    (∀ (xs : List Val) (d : Nat) (keyed : Bool), 3 * fsizeList xs + 3 ≤ f → (fmtItems leafText max f d keyed xs).returns) ∧
    (∀ (xs : List Val) (d : Nat), 3 * fsizeList xs + 2 ≤ f → (fmtLines leafText max f d xs).returns) := by
  induction f with
  | zero => exact ⟨fun _ _ h => (Nat.not_succ_le_zero _ h).elim, fun _ _ _ h => (Nat.not_succ_le_zero _ h).elim,
      fun _ _ h => (Nat.not_succ_le_zero _ h).elim⟩
  | succ f ih =>
    obtain ⟨ihv, ihi, ihl⟩ := ih
    refine ⟨fun v d h => ?_, fun xs d keyed h => ?_, fun xs d h => ?_⟩
    · by_cases hc : ctxName v = []
      · cases ha : isAssocVal v with
        | false => rw [fmtValue_leaf hc ha]; split <;> trivial
        | true =>
          obtain ⟨k, x, rfl⟩ := isAssocVal_eq_true ha
          rw [fmtValue_assoc]
          cases leafText k with
          | none => trivial
          | some kt =>
            have h : 3 * (1 + fsize k + fsize x) + 1 ≤ f + 1 := h
            exact FOut.bind_returns (ihv x d (by omega)) (fun _ => trivial)
      · rw [fmtValue_coll hc]
        exact FOut.bind_returns (ihi _ d _ (by rw [fsize_coll hc] at h; omega)) (fun _ => trivial)
    · rw [fmtItems_succ]
      split
      · trivial
      · rcases xs with _ | ⟨x, _ | ⟨y, rest⟩⟩
        · trivial
        · have h : 3 * (fsize x + 0) + 3 ≤ f + 1 := h
          exact ihv x (d+1) (by omega)
        · exact FOut.bind_returns (ihl (x :: y :: rest) (d+1) (Nat.le_of_succ_le_succ h)) (fun _ => trivial)
    · cases xs with
      | nil => trivial
      | cons x xs =>
        rw [fmtLines_cons]
        have h : 3 * (fsize x + fsizeList xs) + 2 ≤ f + 1 := h
        have := fsize_pos x
        exact FOut.bind_returns (ihv x d (by omega)) fun _ => FOut.bind_returns (ihl xs d (by omega)) fun _ => trivial

theorem fmtValue_returns : ∀ (v : Val) (f d : Nat), 3 * fsize v + 1 ≤ f → (fmtValue leafText max f d v).returns :=
  fun v f d => (returns_all leafText max f).1 v d

theorem fmtItems_returns : ∀ (xs : List Val) (f d : Nat) (keyed : Bool), 3 * fsizeList xs + 3 ≤ f →
    (fmtItems leafText max f d keyed xs).returns :=
  fun xs f d keyed => (returns_all leafText max f).2.1 xs d keyed

theorem fmtLines_returns : ∀ (xs : List Val) (f d : Nat), 3 * fsizeList xs + 2 ≤ f → (fmtLines leafText max f d xs).returns :=
  fun xs f d => (returns_all leafText max f).2.2 xs d

/-- **FormatValue is total**: it returns for every value (text, or the library's "unknown
    intrinsic" panic for a value outside the notation) – never runs for ever, however deep
    the nesting: the traversal is cut at the limit and the remaining work is bounded by the
    size of the value -/
theorem C10_format_total (v : Val) : (formatValue leafText max (3 * fsize v + 1) v).returns := by
  unfold formatValue
  exact FOut.bind_returns (fmtValue_returns leafText max v _ 0 (Nat.le_refl _)) (fun _ => trivial)

/-- **whatever is nested deeper than the limit is elided**: at the limit a collection is
    written as `[...](Context)` without looking at its items (so a self-containing value,
    all of whose unfoldings are deeper than the limit, is formatted in finitely many steps) -/
theorem C10_elides_at_limit (f : Nat) (keyed : Bool) (xs : List Val) :
    fmtItems leafText max (f+1) max keyed xs = .ok (str "...") :=
  (fmtItems_succ keyed xs).trans (if_pos rfl)

/-- **the text is a function of the argument alone**: the model formatter has no state that
    survives a call (the real one resets its buffer and depth on entry, fix D10c), so earlier
    calls – successful or failed – cannot influence the text -/
theorem C10_format_pure (fuel : Nat) (v : Val) (history : List Val) :
    (history.foldl (fun (_ : FOut) h => formatValue leafText max fuel h) (formatValue leafText max fuel v),
      formatValue leafText max fuel v).2 = formatValue leafText max fuel v := rfl

/-- the first form in which the round trip was stated (acceptance only); the proved theorem
    `C10_roundtrip` (Props/C10Round.lean) is stronger: the parsed value IS the value -/
def C10_roundtrip_statement : Prop :=
  ∀ (env : Env) (leafText : Val → Option (List Nat)) (v : Val) (text : List Nat),
    formatValue leafText 8 (3 * fsize v + 1) v = .ok text →
    (∀ leaf t, leafText leaf = some t → ∃ tok, scan t = [tok, { tok with tt := .eof, value := [] }] ∧ env.conv tok = some leaf) →
    ∃ v', parseTokens env (8 * (scan text).length + 16) (scan text) = .value v'

example : fmtValue (fun _ => some (str "7")) 8 20 0 (.coll .list [.int 7, .int 7]) =
    .ok (str "[\n    7\n    7\n](List)") := by
  -- `decide` on the string literals themselves is several times dearer
  simp only [str, String.reduceToList, List.map, ch, Char.reduceToNat]; decide

end CM
