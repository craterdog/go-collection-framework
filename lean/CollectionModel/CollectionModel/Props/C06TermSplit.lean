/-
  C06, termination half for **Split** – same statements as for Fork (Props/C06Term.lean), for
  every input stream, fan-out n ≥ 1, capacity ≥ 1 and interleaving of the feeder, the helper
  goroutine (round-robin iterator over the outputs) and the n readers.  The proofs are those of that file with the
  output `s.turn` in place of Fork's loop index.
-/
import CollectionModel.Props.C06Term
import CollectionModel.Props.C06Split
namespace CM
open CM.Pipes

variable {α : Type}

/-- `w` steps are left for a value in hand -/
def hpotS (w n : Nat) : HS α → Nat
  | .recv => n + 1
  | .send _ => n + 1 + w
  | .close k => n - k
  | .done => 0

/-- a value takes four steps: feed, receive, send, read -/
def splitPot (n : Nat) (s : SS α) : Nat :=
  feedPot 3 s.rest s.inq s.inClosed + hpotS 2 n s.h + bufPot n s.buf + rdPot n s.readerDone

/-- **every atomic step does one unit of the remaining work** (the iterator points at an output) -/
theorem C06_split_step_decreases (n cap : Nat) (s t : SS α) (ht : s.turn < n) (h : SStep n cap s t) :
    splitPot n t < splitPot n s := by
  cases h with
  | feed v r h1 h2 h3 => simp only [splitPot, h1, Nat.add_lt_add_iff_right]; exact feedPot_feed ..
  | feedClose h1 h3 => simp only [splitPot, h3, Nat.add_lt_add_iff_right]; exact feedPot_close ..
  | hRecv v q h1 h2 => simp only [splitPot, h1, h2, Nat.add_lt_add_iff_right]; exact feedPot_recv 2 ..
  | hRecvClosed h1 h2 h3 =>
    simp only [splitPot, h1, Nat.add_lt_add_iff_right, Nat.add_lt_add_iff_left]; exact Nat.lt_succ_self n
  | hSend v h1 h2 h3 =>
    simp only [splitPot, h1, Nat.add_lt_add_iff_right]
    exact move_lt (k := 2) (Nat.le_refl _) (Nat.le_of_eq (bufPot_push ht ..)) (Nat.lt_succ_self 1)
  | hClose k h1 hk =>
    simp only [splitPot, h1, Nat.add_lt_add_iff_right, Nat.add_lt_add_iff_left]
    exact closing_weight_lt hk (fun _ => rfl) rfl
  | read k v b hk h1 h2 =>
    simp only [splitPot, Nat.add_lt_add_iff_right, Nat.add_lt_add_iff_left]; exact bufPot_pop hk h1
  | readClosed k hk h1 h2 h3 => simp only [splitPot, Nat.add_lt_add_iff_left]; exact rdPot_done hk h3

inductive SRun (n cap : Nat) : SS α → Nat → SS α → Prop
  | zero (s) : SRun n cap s 0 s
  | succ {s t u m} : SStep n cap s t → SRun n cap t m u → SRun n cap s (m + 1) u

theorem SRun.steps {n cap m : Nat} {s u : SS α} (h : SRun n cap s m u) : Steps (SStep n cap) s m u := by
  induction h with
  | zero => exact .zero _
  | succ hs _ ih => exact .succ hs ih

theorem split_reach_decreases (input : List α) (n cap : Nat) (hn : 1 ≤ n) (s t : SS α)
    (hr : SReach n cap (initSS input) s) (h : SStep n cap s t) : splitPot n t < splitPot n s :=
  C06_split_step_decreases n cap s t (by rw [(C06_split_inv input n cap hn s hr).turn]; exact Nat.mod_lt _ hn) h

/-- **no infinite run** from a reachable state -/
theorem C06_split_run_bounded (input : List α) (n cap : Nat) (hn : 1 ≤ n) (m : Nat) (s u : SS α)
    (hr : SReach n cap (initSS input) s) (h : SRun n cap s m u) : m + splitPot n u ≤ splitPot n s :=
  (Steps.bounded (fun _ _ => SReach.step) (split_reach_decreases input n cap hn) h.steps hr).2

/-- what the helper has closed so far, and what the readers may conclude from it -/
structure SplitProg (n : Nat) (s : SS α) : Prop where
  closing : Closing HS.close HS.done n s.h s.oclosed
  readers : Readers s.buf s.oclosed s.readerDone

theorem split_prog_reach (input : List α) (n cap : Nat) (hn : 1 ≤ n) (s : SS α) (h : SReach n cap (initSS input) s) : SplitProg n s := by
  induction h with
  | init => exact ⟨.of_not_closing nofun nofun, nofun, nofun⟩
  | step _ hs hp =>
    cases hs with
    | feed _ _ _ _ _ | feedClose _ _ => exact { hp with }
    | hRecv v q h1 h2 => exact { hp with closing := .of_not_closing nofun nofun }
    | hRecvClosed h1 h2 h3 => exact { hp with closing := .start closingPC_HS hn }
    | hSend v h1 h2 h3 =>
      -- a reader that is done has a closed output, and the helper does not send to a closed output
      exact { closing := .of_not_closing nofun nofun, readers := hp.readers.set_buf (hp.readers.not_done h3) _ }
    | hClose k h1 hk =>
      exact { closing := hp.closing.next closingPC_HS h1, readers := hp.readers.set_closed k }
    | read k v b hk h1 h2 => exact { hp with readers := hp.readers.set_buf h2 b }
    | readClosed k hk h1 h2 h3 => exact { hp with readers := hp.readers.set_done h1 h2 }

/-- the final state, as `ForkFinal` -/
def SplitFinal (n : Nat) (s : SS α) : Prop :=
  s.h = .done ∧ ∀ k, k < n → s.oclosed k = true ∧ s.buf k = [] ∧ s.readerDone k = true

/-- **nobody waits for ever** -/
theorem C06_split_no_deadlock (input : List α) (n cap : Nat) (hn : 1 ≤ n) (hcap : 1 ≤ cap) (s : SS α)
    (hr : SReach n cap (initSS input) s) : SplitFinal n s ∨ ∃ t, SStep n cap s t := by
  have inv := C06_split_inv input n cap hn s hr
  have hp := split_prog_reach input n cap hn s hr
  have reader : ∀ k, k < n → s.readerDone k = false → (s.buf k = [] → s.oclosed k = true) → ∃ t, SStep n cap s t := by
    intro k hk hd hb
    cases hbk : s.buf k with
    | nil => exact ⟨_, SStep.readClosed s k hk hbk (hb hbk) hd⟩
    | cons v b => exact ⟨_, SStep.read s k v b hk hbk hd⟩
  cases hh : s.h with
  | recv =>
    right
    cases hq : s.inq with
    | cons v q => exact ⟨_, SStep.hRecv s v q hh hq⟩
    | nil =>
      cases hc : s.inClosed with
      | true => exact ⟨_, SStep.hRecvClosed s hh hq hc⟩
      | false =>
        cases hrest : s.rest with
        | nil => exact ⟨_, SStep.feedClose s hrest hc⟩
        | cons v r => exact ⟨_, SStep.feed s v r hrest (by rw [hq]; exact hcap) hc⟩
  | send v =>
    right
    have hk : s.turn < n := by rw [inv.turn]; exact Nat.mod_lt _ hn
    have hnc : s.oclosed s.turn = false :=
      open_of_not_closing inv.noLate hh nofun nofun _
    by_cases hfull : (s.buf s.turn).length < cap
    · exact ⟨_, SStep.hSend s v hh hfull hnc⟩
    · exact reader _ hk (hp.readers.not_done hnc) fun e => absurd (by rw [e]; exact hcap) hfull
  | close k => exact Or.inr ⟨_, SStep.hClose s k hh (hp.closing.lt k hh)⟩
  | done =>
    rcases forall_lt_or_exists n (fun k => s.buf k = [] ∧ s.readerDone k = true) with hall | ⟨k, hk, hnk⟩
    · exact Or.inl ⟨hh, fun k hk => ⟨hp.closing.closed k hk (.inr hh), (hall k hk).1, (hall k hk).2⟩⟩
    · right
      cases hd : s.readerDone k with
      | false => exact reader k hk hd fun _ => hp.closing.closed k hk (.inr hh)
      | true => exact absurd ⟨hp.readers.empty k hd, hd⟩ hnk

theorem splitPot_init (input : List α) (n : Nat) : splitPot n (initSS input) = 4 * input.length + (2 * n + 2) := by
  simp only [splitPot, feedPot, bufPot, rdPot, initSS, hpotS, List.length_nil, todo]
  rw [sumTo_const, sumTo_const]; omega

/-- **Split terminates** — for every input, fan-out ≥ 1, capacity ≥ 1 and every interleaving:
    no run is longer than 4·|input| + 2n + 2 steps, and a run that cannot be extended has reached
    the final state (helper at `group.Done()`, every output closed and drained, every reader has
    seen ok=false) in which reader k has read exactly the values at positions ≡ k (mod n). -/
theorem C06_split_terminates (input : List α) (n cap : Nat) (hn : 1 ≤ n) (hcap : 1 ≤ cap) (m : Nat) (u : SS α)
    (hrun : SRun n cap (initSS input) m u) :
    m ≤ 4 * input.length + (2 * n + 2) ∧
    ((¬ ∃ t, SStep n cap u t) → SplitFinal n u ∧ ∀ k, k < n → u.reads k = splitSpec n k 0 input) := by
  obtain ⟨hb, hr, hfin⟩ := Steps.terminates (F := SplitFinal n) (fun _ _ => SReach.step)
    (split_reach_decreases input n cap hn) (C06_split_no_deadlock input n cap hn hcap) hrun.steps .init
  rw [splitPot_init] at hb
  refine ⟨hb, fun hstuck => ?_⟩
  have hf := hfin hstuck
  have ⟨helper_done, outs⟩ := hf
  exact ⟨hf, C06_split_final input n cap hn u hr helper_done fun k hk => (outs k hk).2.1⟩

end CM
