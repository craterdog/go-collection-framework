/-
  T3L obligations for C01: the rebuild loops of `list_` (InsertValue, InsertValues, AppendValue,
  AppendValues, RemoveValue, RemoveValues, RemoveAll), TRANSLATED from the current text of
  list.go (Generated/LoopsList.lean: a fresh array of zero values filled through `SetValue`,
  an iterator that hands out the zero value once exhausted, `int`/`uint` arithmetic with
  wrap-around), compute what the list-level model `Model/Seq.lean` computes, for every list
  shorter than 2^62.  (`array_.SetValue` / `GetValue` and `toNormalized` are the Seq model's
  in both; their own ties are `toZeroBased_tie` / `toNormalized_tie`.)
-/
import CollectionModel.Generated.LoopsList
import CollectionModel.Lemmas.SeqLemmas
namespace CM
namespace Tie
open CM.GoSem CM.Seq

variable {α : Type} [Inhabited α]

theorem u64_w64 {n : Nat} (h : IsInt64 (n : Int)) : u64 (w64 (n : Int)) = n := by
  rw [w64_id h, u64_natCast h]

theorem makeArray_ok (n : Nat) (h : IsInt64 (n : Int)) :
    makeArray (α := α) (n : Int) = .ok (List.replicate n default) := by
  rw [makeArray, if_pos ⟨Int.natCast_nonneg n, h.2⟩]
  rfl

/-- The invariant of the rebuild loops: the new array is what has been written (`pre`) followed by zero values, the index
    is `|pre|`; writing the next position moves one value into `pre`. -/
theorem setValue_next (pre : List α) (m : Nat) (x : α) :
    Seq.setValue (pre ++ List.replicate (m + 1) default) ((pre.length + 1 : Nat) : Int) x
      = .ok ((pre ++ [x]) ++ List.replicate m default) := by
  rw [Int.natCast_succ, List.replicate_succ, Seq.setValue_at, List.append_assoc]
  rfl

/-- `setValue_next` with the room left written as `n - k` -/
theorem setValue_fill (pre : List α) (n k : Nat) (x : α) (hk : pre.length = k) (hkn : k < n) :
    Seq.setValue (pre ++ List.replicate (n - k) default) ((k + 1 : Nat) : Int) x
      = .ok ((pre ++ [x]) ++ List.replicate (n - (k + 1)) default) := by
  subst hk
  rw [← Nat.succ_pred_eq_of_pos (Nat.sub_pos_of_lt hkn)]
  exact setValue_next pre _ x

omit [Inhabited α] in
/-- one value more in the filled prefix, one position less to fill -/
theorem length_snoc_add (pre : List α) (y : α) (m : Nat) : (pre ++ [y]).length + m = pre.length + (m + 1) := by
  rw [List.length_append, List.length_singleton, Nat.add_assoc, Nat.add_comm 1]

/-- `m` positions are still to be filled.  The guard is `index < size`, not the iterator (which hands out zero values once
    exhausted): the fuel is measured against `m` and the induction is on `m`. -/
theorem listInsertValue_loop_tie (slot : Nat) (value : α) (vals : List α) (n : Nat) (hn : IsInt64 (n : Int))
    (hs : IsInt64 (slot : Int)) (m fuel : Nat) (pre it : List α) (room : pre.length + m = n) (hf : m < fuel) :
    Generated.listInsertValue_loop1 (slot : Int) value fuel (n : Int) (pre ++ List.replicate m default) it
        (pre.length : Int) vals
      = some (.ok (pre ++ insertLoop slot value m pre.length it)) := by
  induction m generalizing fuel pre it with
  | zero =>
    obtain ⟨f, rfl⟩ := fuel_succ hf
    rw [Generated.listInsertValue_loop1, w64_id hn, if_neg (by rw [decide_eq_true_eq, ← room]; exact Int.lt_irrefl _)]
    rfl
  | succ m ih =>
    obtain ⟨f, rfl⟩ := fuel_succ hf
    have hlt : pre.length < n := room ▸ Nat.lt_add_of_pos_right (Nat.succ_pos m)
    -- both branches write one value `y` and go on with what is left of the iterator
    have write (y : α) (it : List α) :=
      ih f (pre ++ [y]) it ((length_snoc_add pre y m).trans room) (Nat.lt_of_succ_lt_succ hf)
    simp only [List.length_append, List.length_singleton] at write
    rw [Generated.listInsertValue_loop1, w64_id hn, if_pos (decide_eq_true (Int.ofNat_lt.mpr hlt)), w64_succ_lt hlt hn,
      w64_id hs, insertLoop]
    simp only [beq_iff_eq, Int.natCast_inj, setValue_next, bindE_ok, write]
    by_cases hsl : pre.length = slot
    · rw [if_pos hsl, if_pos hsl, List.append_assoc]; rfl
    · rw [if_neg hsl, if_neg hsl, List.append_assoc]; rfl

/-- `list_.InsertValue` as written in list.go = `Seq.insertValue` -/
theorem listInsertValue_tie (l : List α) (slot : Nat) (v : α) (fuel : Nat)
    (hint : IsInt64 ((l.length : Int) + 2)) (hs : IsUint64 (slot : Int)) (hfuel : l.length + 1 < fuel) :
    Generated.listInsertValue (slot : Int) v l fuel = some (Seq.insertValue l slot v) := by
  have hn : IsInt64 ((l.length + 1 : Nat) : Int) := IsInt64.natCast_le (n := l.length + 2) hint (Nat.le_succ _)
  unfold Generated.listInsertValue Seq.insertValue
  rw [u64_natCast (hn.natCast_le (Nat.le_succ _))]
  by_cases h : slot > l.length
  · rw [if_pos (decide_eq_true (Int.ofNat_lt.mpr h)), if_pos h]
  · rw [if_neg fun hd => h (Int.ofNat_lt.mp (of_decide_eq_true hd)), if_neg h,
      show (l.length : Int) + 1 = ((l.length + 1 : Nat) : Int) from rfl]
    simp only [u64_w64 hn, makeArray_ok _ hn, bindE_ok]
    exact listInsertValue_loop_tie slot v l _ hn (hs := hn.natCast_le (Nat.le_succ_of_le (Nat.le_of_not_gt h)))
      (pre := []) (it := l) (room := Nat.zero_add _) (hf := hfuel)

/-- a copy loop `for iterator.HasNext() { index++; array.SetValue(index, iterator.GetNext()) }` -/
theorem isEmpty_false_cons (it : List α) (h : it ≠ []) : it.isEmpty = false :=
  List.isEmpty_eq_false_iff.mpr h

/-- A loop `L` (fuel, array, index, iterator) whose step on a non-empty iterator is
    `index++; array.SetValue(index, iterator.GetNext())` writes the iterator's values after the filled prefix of
    the array and goes on with what it does on the empty iterator (`K`).  The four copy loops of list.go
    (AppendValue, both of AppendValues, the inner one of InsertValues) are instances. -/
theorem copyLoop_tie {ρ : Type} (L : Nat → List α → Int → List α → Option (Except Panic ρ))
    (K : Nat → List α → Int → Option (Except Panic ρ))
    (step : ∀ f a i x xs, L (f + 1) a i (x :: xs)
      = bindE (Seq.setValue a (w64 (i + 1)) x) fun a => L f a (w64 (i + 1)) xs)
    (done : ∀ f a i, L (f + 1) a i [] = K f a i) {n : Nat} (hn : IsInt64 (n : Int)) (it pre : List α) (fuel m : Nat)
    (fits : pre.length + it.length ≤ n) (hf : it.length < fuel) :
    L fuel (pre ++ List.replicate (it.length + m) default) (pre.length : Int) it
      = K (fuel - it.length - 1) ((pre ++ it) ++ List.replicate m default) ((pre ++ it).length : Int) := by
  induction it generalizing pre fuel with
  | nil =>
    obtain ⟨f, rfl⟩ := fuel_succ hf
    rw [List.append_nil, List.length_nil, Nat.zero_add, done]; rfl
  | cons x xs ih =>
    obtain ⟨f, rfl⟩ := fuel_succ hf
    have hlt : pre.length < n := Nat.lt_of_add_right_lt (show pre.length + xs.length < n from fits)
    -- the right side is what the hypothesis says of `pre ++ [x]`; the left side takes one step
    rw [List.length_cons, Nat.add_sub_add_right, List.append_cons pre x xs,
      ← ih (pre ++ [x]) f (length_snoc_add pre x _ ▸ fits) (Nat.lt_of_succ_lt_succ hf),
      Nat.add_right_comm _ 1 m, step, w64_succ_lt hlt hn, setValue_next, bindE_ok, List.length_append,
      List.length_singleton]

/-- `list_.AppendValue` as written in list.go = `Seq.appendValue` -/
theorem listAppendValue_tie (l : List α) (v : α) (fuel : Nat) (hint : IsInt64 ((l.length : Int) + 2)) (hfuel : l.length < fuel) :
    Generated.listAppendValue v l fuel = some (.ok (Seq.appendValue l v)) := by
  have hn : IsInt64 ((l.length + 1 : Nat) : Int) := IsInt64.natCast_le (n := l.length + 2) hint (Nat.le_succ _)
  unfold Generated.listAppendValue
  rw [show (l.length : Int) + 1 = ((l.length + 1 : Nat) : Int) from rfl]
  simp only [u64_w64 hn, makeArray_ok _ hn, bindE_ok]
  refine (copyLoop_tie (L := fun f a i it => Generated.listAppendValue_loop1 v f ((l.length + 1 : Nat) : Int) a i it l)
    (K := fun _ a i => bindE (Seq.setValue a (w64 (i + 1)) v) fun a => some (.ok a))
    (step := fun _ _ _ _ _ => rfl) (done := fun _ _ _ => rfl) hn l [] fuel 1
    (fits := Nat.le_trans (Nat.le_of_eq (Nat.zero_add _)) (Nat.le_succ _)) hfuel).trans ?_
  rw [List.nil_append, w64_succ_lt (Nat.lt_succ_self _) hn, setValue_next, bindE_ok, List.replicate_zero,
    List.append_nil]
  rfl

/-- `list_.AppendValues` as written in list.go = `Seq.appendValues` -/
theorem listAppendValues_tie (l vs : List α) (fuel : Nat) (hint : IsInt64 ((l.length : Int) + (vs.length : Int) + 2))
    (hfuel : l.length + vs.length + 1 < fuel) :
    Generated.listAppendValues vs l fuel = some (.ok (Seq.appendValues l vs)) := by
  have hn : IsInt64 ((l.length + vs.length : Nat) : Int) :=
    IsInt64.natCast_le (n := l.length + vs.length + 2) hint (Nat.le_add_right _ 2)
  unfold Generated.listAppendValues
  rw [← Int.natCast_add]
  simp only [u64_w64 hn, makeArray_ok _ hn, bindE_ok]
  -- the first loop copies `l` and hands over to the second, which copies `vs`
  have h1 := copyLoop_tie
    (L := fun f a i it => Generated.listAppendValues_loop1 vs f ((l.length + vs.length : Nat) : Int) a i it l)
    (K := fun f a i => Generated.listAppendValues_loop2 vs f ((l.length + vs.length : Nat) : Int) a i vs l)
    (step := fun _ _ _ _ _ => rfl) (done := fun _ _ _ => rfl) hn l [] fuel vs.length
    (fits := Nat.le_trans (Nat.le_of_eq (Nat.zero_add _)) (Nat.le_add_right _ _))
    (hf := Nat.lt_of_add_right_lt (Nat.lt_of_succ_lt hfuel))
  have h2 := copyLoop_tie
    (L := fun f a i it => Generated.listAppendValues_loop2 vs f ((l.length + vs.length : Nat) : Int) a i it l)
    (K := fun _ a _ => some (.ok a)) (step := fun _ _ _ _ _ => rfl) (done := fun _ _ _ => rfl) hn vs l
    (fuel - l.length - 1) 0 (fits := Nat.le_refl _) (hf := by omega)
  exact h1.trans (h2.trans (by simp [Seq.appendValues]))

/-- the array has exactly the room the model's loop needs; the counter runs from `c` down to `c - |it|` -/
theorem listRemoveValue_loop_tie (removed : α) (vals : List α) (size : Int) (n : Nat) (hn : IsInt64 ((n + 1 : Nat) : Int))
    (it : List α) (fuel : Nat) (pre : List α) (c : Int) (fits : pre.length + it.length ≤ n)
    (hlo : IsInt64 (c - it.length)) (hhi : IsInt64 c) (hf : it.length < fuel) :
    Generated.listRemoveValue_loop1 fuel ((pre.length + 1 : Nat) : Int) removed size
        (pre ++ List.replicate (removeLoop c it).length default) c it vals
      = some (.ok (removed, pre ++ removeLoop c it)) := by
  induction it generalizing fuel pre c with
  | nil =>
    obtain ⟨f, rfl⟩ := fuel_succ hf
    rfl
  | cons x xs ih =>
    obtain ⟨f, rfl⟩ := fuel_succ hf
    have hf := Nat.lt_of_succ_lt_succ hf
    have hlt : pre.length < n := Nat.lt_of_add_right_lt (show pre.length + xs.length < n from fits)
    have hlo : IsInt64 (c - 1 - xs.length) := by
      rwa [List.length_cons, Int.natCast_succ, Int.add_comm, ← Int.sub_sub] at hlo
    have hc : IsInt64 (c - 1) := ⟨Int.le_trans hlo.1 (Int.sub_le_self _ (Int.natCast_nonneg _)),
      Int.lt_of_le_of_lt (Int.sub_le_self c (by decide)) hhi.2⟩
    rw [Generated.listRemoveValue_loop1, removeLoop]
    simp only [List.isEmpty_cons, Bool.not_false, if_true, itNext, beq_iff_eq, w64_id hc]
    by_cases h0 : c - 1 = 0
    · rw [if_pos h0, if_pos h0]
      exact ih f pre (c - 1) (Nat.le_of_succ_le fits) hlo hc hf
    · have ih := ih f (pre ++ [x]) (c - 1) (length_snoc_add pre x _ ▸ fits) hlo hc hf
      rw [List.length_append, List.length_singleton] at ih
      rw [if_neg h0, if_neg h0, List.length_cons, setValue_next, bindE_ok, w64_succ_lt (Nat.succ_lt_succ hlt) hn, ih,
        List.append_assoc]
      rfl

/-- `list_.RemoveValue` as written in list.go = `Seq.removeValue` -/
theorem listRemoveValue_tie (l : List α) (index : Int) (fuel : Nat) (hint : IsInt64 ((l.length : Int) + 4)) (hfuel : l.length < fuel) :
    Generated.listRemoveValue index l fuel = some (Seq.removeValue l index) := by
  unfold Generated.listRemoveValue Seq.getValue
  rw [removeValue_eq]
  rcases index_cases l.length index with ⟨c, h1, h2, _⟩ | ⟨p, hp, h1, h2, _⟩
  · rw [h1]; rfl
  · have hn : IsInt64 ((l.length + 1 : Nat) : Int) := IsInt64.natCast_le (n := l.length + 4) hint (Nat.le_add_right _ 3)
    have hn1 : IsInt64 ((l.length - 1 : Nat) : Int) := hn.natCast_le (Nat.le_succ_of_le (Nat.sub_le _ _))
    rw [h1, h2, ← Int.natCast_one, ← Int.natCast_sub (Nat.succ_le_of_lt (Nat.zero_lt_of_lt hp))]
    simp only [u64_w64 hn1, makeArray_ok _ hn1, bindE_ok]
    -- the counter starts at the ordinal `p + 1` and ends at `p + 1 - |l|`
    have := listRemoveValue_loop_tie (l.getD p default) l ((l.length - 1 : Nat) : Int) l.length hn l fuel []
      ((p + 1 : Nat) : Int) (fits := Nat.le_of_eq (Nat.zero_add _))
      (hlo := (isInt64_span hn (Nat.succ_lt_succ hp) (Nat.le_succ _)).1) (hhi := hn.natCast_le (Nat.le_succ_of_le hp))
      hfuel
    rw [Int.natCast_succ p, removeLoop_spec, List.length_eraseIdx, if_pos hp] at this
    exact this

/-- the two arrays have exactly the room the model's loop needs; `c` values have been visited -/
theorem listRemoveValues_loop_tie (vals : List α) (F La : Nat) (delta size : Int) (n : Nat) (hn : IsInt64 (n : Int))
    (it : List α) (fuel c : Nat) (preA preR : List α) (h : c + it.length ≤ n) (hA : preA.length ≤ c) (hR : preR.length ≤ c)
    (hf : it.length < fuel) :
    Generated.listRemoveValues_loop1 fuel (F : Int) (La : Int) delta size ()
        (preR ++ List.replicate (splitLoop F La c it).2.length default)
        (preA ++ List.replicate (splitLoop F La c it).1.length default)
        (c : Int) (preA.length : Int) (preR.length : Int) it vals
      = some (.ok (preR ++ (splitLoop F La c it).2, preA ++ (splitLoop F La c it).1)) := by
  induction it generalizing fuel c preA preR with
  | nil =>
    obtain ⟨f, rfl⟩ := fuel_succ hf
    rfl
  | cons x xs ih =>
    obtain ⟨f, rfl⟩ := fuel_succ hf
    have hf := Nat.lt_of_succ_lt_succ hf
    have hc : c < n := Nat.lt_of_add_right_lt (show c + xs.length < n from h)
    have h : c + 1 + xs.length ≤ n := Nat.add_right_comm c 1 _ ▸ h
    rw [Generated.listRemoveValues_loop1, splitLoop]
    simp only [List.isEmpty_cons, Bool.not_false, if_true, itNext, w64_succ_lt hc hn, Bool.or_eq_true, decide_eq_true_eq,
      Int.ofNat_lt, gt_iff_lt]
    -- the value goes to the array of those kept or to the array of those removed
    by_cases hk : c + 1 < F ∨ La < c + 1
    · have ih := ih f (c + 1) (preA ++ [x]) preR h (by rw [List.length_append]; exact Nat.succ_le_succ hA)
        (Nat.le_succ_of_le hR) hf
      rw [List.length_append, List.length_singleton] at ih
      simp only [if_pos hk, List.length_cons]
      rw [w64_succ_lt (Nat.lt_of_le_of_lt hA hc) hn, setValue_next, bindE_ok, ih, List.append_assoc]
      rfl
    · have ih := ih f (c + 1) preA (preR ++ [x]) h (Nat.le_succ_of_le hA)
        (by rw [List.length_append]; exact Nat.succ_le_succ hR) hf
      rw [List.length_append, List.length_singleton] at ih
      simp only [if_neg hk, List.length_cons]
      rw [w64_succ_lt (Nat.lt_of_le_of_lt hR hc) hn, setValue_next, bindE_ok, ih, List.append_assoc]
      rfl

/-- `make` of a negative size converted to `uint` -/
theorem makeArray_u64_neg {x : Int} (h : x < 0) (hx : IsInt64 x) : makeArray (α := α) (u64 x) = .error .rt := by
  unfold makeArray u64
  rw [if_neg (by unfold IsInt64 at *; omega)]

theorem kept_length {f q n : Nat} (h1 : f ≤ q) (h2 : q ≤ n) : f + (n - q) = n - (q - f) :=
  (Nat.sub_eq_of_eq_add (by rw [Nat.add_assoc, Nat.sub_add_sub_cancel h2 h1, Nat.add_sub_cancel' (Nat.le_trans h1 h2)])).symm

/-- `list_.RemoveValues` as written in list.go = `Seq.removeValues` (a range whose end lies before its start makes
    `uint(last-first+1)` huge and `make` fail with a Go runtime error, in both) -/
theorem listRemoveValues_tie (l : List α) (first last : Int) (fuel : Nat) (hint : IsInt64 ((l.length : Int) + 4)) (hfuel : l.length < fuel) :
    Generated.listRemoveValues first last l fuel = some (Seq.removeValues l first last) := by
  unfold Generated.listRemoveValues Seq.removeValues
  rcases index_cases l.length first with ⟨c, _, h1, _⟩ | ⟨pf, hpf, _, h1, _⟩
  · rw [h1]; rfl
  rcases index_cases l.length last with ⟨c, _, h2, _⟩ | ⟨pl, hpl, _, h2, _⟩
  · rw [h1, h2]; rfl
  have hn : IsInt64 ((l.length : Nat) : Int) := IsInt64.natCast_le (n := l.length + 4) hint (Nat.le_add_right _ 4)
  rw [h1, h2]
  simp only [bindE_ok, Int.add_sub_add_right, w64_span hn hpl (Nat.le_of_lt hpf)]
  rcases span_cases pl pf with ⟨hneg, _⟩ | ⟨hneg, hd, hle⟩
  · -- the removed array cannot be allocated
    rw [makeArray_u64_neg hneg (isInt64_span hn hpl (Nat.le_of_lt hpf)).2, if_pos hneg]
    rfl
  · have hdl : pl + 1 - pf ≤ l.length := Nat.le_trans (Nat.sub_le _ _) hpl
    have hn1 := hn.natCast_le hdl
    have hn2 := hn.natCast_le (Nat.sub_le l.length (pl + 1 - pf))
    rw [if_neg hneg, hd, u64_natCast hn1, u64_natCast hn, ← Int.natCast_sub hdl, u64_natCast hn2, makeArray_ok _ hn1,
      makeArray_ok _ hn2, bindE_ok, bindE_ok, Int.toNat_natCast_add_one, Int.toNat_natCast_add_one]
    have := listRemoveValues_loop_tie l (F := pf + 1) (La := pl + 1) (delta := ((pl + 1 - pf : Nat) : Int))
      (size := ((l.length - (pl + 1 - pf) : Nat) : Int)) l.length hn l fuel 0 [] []
      (h := Nat.le_of_eq (Nat.zero_add _)) (hA := Nat.le_refl _) (hR := Nat.le_refl _) hfuel
    have hsp := splitLoop_eq (pf + 1) (pl + 1) (Nat.succ_le_succ hle) l 0
    rw [hsp] at this ⊢
    -- the two arrays that were allocated have the lengths of the two parts
    simp only [List.length_append, List.length_take, List.length_drop, Nat.sub_zero, Nat.add_sub_cancel,
      Nat.min_eq_left hpl, Nat.min_eq_left (Nat.le_of_lt hpf), kept_length hle hpl] at this
    exact this

/-- `list_.RemoveAll` as written in list.go -/
theorem listRemoveAll_tie (l : List α) (fuel : Nat) : Generated.listRemoveAll l fuel = some (.ok ([] : List α)) := rfl

/-- As `listInsertValue_loop_tie`, but the model's loop has a fuel `fm` of its own (an iteration fills one position or
    `|values|`): the two go in step as long as the model's ends within `fm`, the induction is on `fm`, and the inner copy
    loop needs `|values|` more fuel than the model. -/
theorem listInsertValues_loop1_tie (slot : Nat) (values vals : List α) (n : Nat) (hn : IsInt64 (n : Int))
    (hsl : IsInt64 (slot : Int)) (hs : slot + values.length ≤ n) (fm fg m : Nat) (pre it : List α) (ins : Bool) (r : List α)
    (h : pre.length + m = n) (hr : insertsLoop n slot values fm pre.length ins it = some r) (hf : values.length + fm < fg) :
    Generated.listInsertValues_loop1 (slot : Int) values fg (n : Int) (pre ++ List.replicate m default) it
        (pre.length : Int) ins vals = some (.ok (pre ++ r)) := by
  induction fm generalizing fg m pre it ins r with
  | zero => rw [insertsLoop] at hr; cases hr
  | succ fm ih =>
    obtain ⟨fg, rfl⟩ := fuel_succ hf
    have hf : values.length + fm < fg := Nat.lt_of_succ_lt_succ hf
    rw [insertsLoop] at hr
    rw [Generated.listInsertValues_loop1, w64_id hn, w64_id hsl]
    simp only [decide_eq_true_eq, Int.ofNat_lt, Bool.and_eq_true, beq_iff_eq, Int.natCast_inj, Bool.not_eq_eq_eq_not,
      Bool.not_true]
    cases m with
    | zero =>
      rw [if_neg (h ▸ Nat.lt_irrefl _)] at hr ⊢
      cases hr
      rfl
    | succ m =>
      have hlt : pre.length < n := h ▸ Nat.lt_add_of_pos_right (Nat.succ_pos m)
      rw [if_pos hlt] at hr ⊢
      by_cases hi : pre.length = slot ∧ ins = false
      · -- the inner loop copies `values`: `slot + |values| ≤ n` says that the room left holds them
        rw [if_pos hi] at hr ⊢
        obtain ⟨r', hr', rfl⟩ := Option.map_eq_some_iff.mp hr
        rw [← hi.1, ← h] at hs
        obtain ⟨m', hm⟩ := Nat.exists_eq_add_of_le (Nat.le_of_add_le_add_left hs)
        rw [hm] at h ⊢
        have fits : pre.length + values.length ≤ n := h ▸ Nat.add_le_add_left (Nat.le_add_right _ m') _
        rw [copyLoop_tie
            (L := fun f a i it2 => Generated.listInsertValues_loop2 (slot : Int) values f (n : Int) a it i true it2 vals)
            (K := fun _ a i => some (.ok ((n : Int), a, it, i, true, [], vals))) (step := fun _ _ _ _ _ => rfl)
            (done := fun _ _ _ => rfl) hn values pre fg m' fits
            (Nat.lt_of_add_right_lt hf)]
        simp only [bindO_ok]
        rw [← List.append_assoc]
        exact ih fg m' (pre ++ values) it true r' (by rw [List.length_append, Nat.add_assoc]; exact h)
          (by rw [List.length_append]; exact hr') hf
      · rw [if_neg hi] at hr ⊢
        obtain ⟨r', hr', rfl⟩ := Option.map_eq_some_iff.mp hr
        have := ih fg m (pre ++ [(itNext it).1]) (itNext it).2 ins r' ((length_snoc_add pre _ m).trans h)
          (by rw [List.length_append]; exact hr') hf
        rw [List.length_append, List.length_singleton] at this
        rw [w64_succ_lt hlt hn, setValue_next, bindE_ok, List.append_cons pre _ r']
        exact this

/-- `list_.InsertValues` as written in list.go = `Seq.insertValues` -/
theorem listInsertValues_tie (l vs : List α) (slot : Nat) (fuel : Nat)
    (hint : IsInt64 ((l.length : Int) + (vs.length : Int) + 2)) (hs : IsUint64 (slot : Int))
    (hfuel : l.length + 2 * vs.length + 3 < fuel) :
    Generated.listInsertValues (slot : Int) vs l fuel = Seq.insertValues l slot vs := by
  have hn : IsInt64 ((l.length + vs.length : Nat) : Int) :=
    IsInt64.natCast_le (n := l.length + vs.length + 2) hint (Nat.le_add_right _ 2)
  unfold Generated.listInsertValues Seq.insertValues
  rw [u64_natCast (hn.natCast_le (Nat.le_add_right _ _))]
  by_cases h : slot > l.length
  · rw [if_pos (decide_eq_true (Int.ofNat_lt.mpr h)), if_pos h]
  · have hle := Nat.le_of_not_gt h
    rw [if_neg fun hd => h (Int.ofNat_lt.mp (of_decide_eq_true hd)), if_neg h, ← Int.natCast_add]
    simp only [u64_w64 hn, makeArray_ok _ hn, bindE_ok]
    -- the model's loop ends within its fuel: `insertValues` has a value
    have hv := insertValues_eq l slot vs
    rw [insertValues, if_neg h] at hv
    obtain ⟨r, hr, _⟩ := Option.map_eq_some_iff.mp hv
    rw [hr]
    exact listInsertValues_loop1_tie slot vs l _ hn (hsl := hn.natCast_le (Nat.le_trans hle (Nat.le_add_right _ _)))
      (hs := Nat.add_le_add_right hle _) (pre := []) (it := l) (h := Nat.zero_add _) (hr := hr) (hf := by omega)

/-! ### the methods that hand the call on to the array underneath -/

theorem listGetValue_tie (l : List α) (index : Int) (fuel : Nat) :
    Generated.listGetValue index l fuel = some ((Seq.getValue l index).map (fun x => (x, l))) := by
  unfold Generated.listGetValue
  cases Seq.getValue l index <;> rfl

theorem listGetValues_tie (l : List α) (first last : Int) (fuel : Nat) :
    Generated.listGetValues first last l fuel = some ((Seq.getValues l first last).map (fun x => (x, l))) := by
  unfold Generated.listGetValues
  cases Seq.getValues l first last <;> rfl

theorem listSetValue_tie (l : List α) (index : Int) (v : α) (fuel : Nat) :
    Generated.listSetValue index v l fuel = some (Seq.setValue l index v) := by
  unfold Generated.listSetValue
  cases Seq.setValue l index v <;> rfl

theorem listSetValues_tie (l vs : List α) (index : Int) (fuel : Nat) :
    Generated.listSetValues index vs l fuel = some (Seq.setValues l index vs) := by
  unfold Generated.listSetValues
  cases Seq.setValues l index vs <;> rfl

theorem listGetSize_tie (l : List α) (fuel : Nat) :
    Generated.listGetSize l fuel = some (.ok ((l.length : Int), l)) := rfl

theorem listIsEmpty_tie (l : List α) (fuel : Nat) :
    Generated.listIsEmpty l fuel = some (.ok ((l.length == 0), l)) := rfl

/-- `listClass_.MakeFromSequence` as written in list.go = `Seq.makeFromSequence` -/
theorem listMakeFromSequence_tie (vs : List α) (fuel : Nat) (hb : IsInt64 ((vs.length : Int) + 2)) (hf : 2 * vs.length + 1 < fuel) :
    Generated.listMakeFromSequence vs fuel = some (.ok (Seq.makeFromSequence vs)) :=
  -- the list and what is still to come are together no longer than `vs`
  bulkLoop_tie (fun f it acc => Generated.listMakeFromSequence_loop1 vs f acc it)
    (fun acc it => some (.ok (it.foldl Seq.appendValue acc))) (fun n acc => acc.length + n ≤ vs.length) vs.length
    (fun _ _ => rfl) (fun f x xs acc hlen hf ih => by
      have ha : acc.length ≤ vs.length := Nat.le_of_add_right_le hlen
      rw [Generated.listMakeFromSequence_loop1]
      simp only [List.isEmpty_cons, Bool.not_false, if_true, Seq.itNext]
      rw [listAppendValue_tie acc x f (IsInt64.natCast_le (k := acc.length + 2) (n := vs.length + 2) hb (Nat.add_le_add_right ha 2))
        (Nat.lt_of_le_of_lt ha hf), bindO_ok]
      exact ih (Seq.appendValue acc x) (length_snoc_add acc x _ ▸ hlen))
    vs [] fuel (Nat.le_of_eq (Nat.zero_add _)) (Nat.two_mul _ ▸ Nat.lt_of_succ_lt hf)

/-- `listClass_.Concatenate` as written in list.go = `Seq.concatenate` (C16) -/
theorem listConcatenate_tie (a b : List α) (fuel : Nat) (hb : IsInt64 ((a.length : Int) + (b.length : Int) + 2))
    (hf : a.length + b.length + 1 < fuel) :
    Generated.listConcatenate a b fuel = some (.ok (Seq.concatenate a b)) := by
  have h0 : ([] : List α).length + a.length ≤ a.length + b.length :=
    Nat.le_trans (Nat.le_of_eq (Nat.zero_add _)) (Nat.le_add_right _ _)
  have h1 : Generated.listAppendValues a [] fuel = some (.ok a) :=
    listAppendValues_tie [] a fuel (IsInt64.natCast_le (n := a.length + b.length + 2) hb (Nat.add_le_add_right h0 2))
      (Nat.lt_of_le_of_lt (Nat.succ_le_succ h0) hf)
  simp only [Generated.listConcatenate]
  rw [h1, bindO_ok, listAppendValues_tie a b fuel hb hf, bindO_ok]
  rfl

/-- non-vacuity: the translated code run on concrete lists -/
example : Generated.listInsertValue (1 : Int) (9 : Int) [1, 2, 3] 10 = some (.ok [1, 9, 2, 3]) := by rfl
example : Generated.listInsertValue (4 : Int) (9 : Int) [1, 2, 3] 10 = some (.error .slot) := by rfl
example : Generated.listRemoveValues (2 : Int) (-1 : Int) [(1 : Int), 2, 3, 4] 10 = some (.ok ([2, 3, 4], [1])) := by rfl
example : Generated.listRemoveValues (3 : Int) (1 : Int) [(1 : Int), 2, 3, 4] 10 = some (.error .rt) := by rfl
example : Generated.listInsertValues (1 : Int) [(7 : Int), 8] [1, 2] 20 = some (.ok [1, 7, 8, 2]) := by rfl

end Tie
end CM
