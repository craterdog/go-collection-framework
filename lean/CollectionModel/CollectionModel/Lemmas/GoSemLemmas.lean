/-
  Facts about the memory model of `Model/GoSem.lean`: `splice` on whole arrays (`Mem.arr`), the operations when they
  are in bounds, `put` and `Holds`, through which the invariants of window-filling loops speak of what a slice shows,
  fresh arrays (`arr_fresh`, `copy_fresh`, `make_copy`), and re-slicing (`Slice.cut`).
-/
import CollectionModel.Model.GoSem
namespace CM
namespace GoSem

variable {α : Type}

/-- `a` with the values from position `p` on replaced by `r` (as many as `r` has) -/
def splice (a : List α) (p : Nat) (r : List α) : List α := a.take p ++ r ++ a.drop (p + r.length)

theorem length_take_append (a : List α) (p : Nat) (r : List α) (h : p ≤ a.length) : (a.take p ++ r).length = p + r.length := by
  rw [List.length_append, List.length_take, Nat.min_eq_left h]

theorem splice_length (a : List α) (p : Nat) (r : List α) (h : p + r.length ≤ a.length) :
    (splice a p r).length = a.length := by
  rw [splice, List.length_append, length_take_append a p r (Nat.le_trans (Nat.le_add_right _ _) h), List.length_drop,
    Nat.add_sub_of_le h]

/-- out of range a write lengthens the array -/
theorem le_splice_length (a : List α) (p : Nat) (r : List α) : a.length ≤ (splice a p r).length := by
  rw [splice, List.length_append, List.length_append, List.length_take, List.length_drop]; omega

theorem splice_getElem? (a : List α) (p : Nat) (r : List α) (hp : p ≤ a.length) (i : Nat) :
    (splice a p r)[i]? = if i < p then a[i]? else if i < p + r.length then r[i - p]? else a[i]? := by
  rw [splice, List.append_assoc, List.getElem?_append, List.length_take_of_le hp]
  by_cases h1 : i < p
  · rw [if_pos h1, if_pos h1, List.getElem?_take_of_lt h1]
  · have hi : i - p < r.length ↔ i < p + r.length := Nat.sub_lt_iff_lt_add' (Nat.le_of_not_lt h1)
    rw [if_neg h1, if_neg h1, List.getElem?_append]
    by_cases h2 : i < p + r.length
    · rw [if_pos h2, if_pos (hi.mpr h2)]
    · rw [if_neg h2, if_neg (mt hi.mp h2), List.getElem?_drop, Nat.sub_sub,
        Nat.add_sub_of_le (Nat.le_of_not_lt h2)]

theorem splice_nil (a : List α) (p : Nat) : splice a p [] = a := by
  simp [splice]

/-- two writes side by side are one write -/
theorem splice_append (a : List α) (p : Nat) (r1 r2 : List α) (h : p ≤ a.length) :
    splice (splice a p r1) (p + r1.length) r2 = splice a p (r1 ++ r2) := by
  have hX := length_take_append a p r1 h
  unfold splice
  rw [← hX, List.take_left, List.drop_length_add_append, List.drop_drop, hX, List.length_append, Nat.add_assoc,
    List.append_assoc _ r1 r2]

/-- a write over a write of the same length is the later one -/
theorem splice_splice (a : List α) (p : Nat) (r r' : List α) (hp : p ≤ a.length) (h : r'.length = r.length) :
    splice (splice a p r) p r' = splice a p r' := by
  have hX := length_take_append a p r hp
  unfold splice
  rw [List.append_assoc (a.take p) r, List.take_left' (List.length_take_of_le hp), h, ← hX, ← List.append_assoc (a.take p) r,
    List.drop_left, List.append_assoc]

theorem set_eq_splice (a : List α) (p : Nat) (x : α) (h : p < a.length) : a.set p x = splice a p [x] := by
  rw [List.set_eq_take_append_cons_drop, if_pos h]; simp [splice]

/-- the form in use (`put_put_tail`); `splice_splice_tail` is its case `r1 = [x]` under a stronger hypothesis -/
theorem splice_append_tail (a : List α) (p : Nat) (r1 r2 : List α) (h : p ≤ a.length) :
    splice (splice a p (r1 ++ r2)) (p + r1.length) r2 = splice a p (r1 ++ r2) := by
  have hX : p + r1.length ≤ (splice a p r1).length := by
    rw [splice, List.length_append, length_take_append a p r1 h]; exact Nat.le_add_right _ _
  rw [← splice_append a p r1 r2 h, splice_splice _ _ _ _ hX rfl]

/-- copying the tail again over what a bulk copy already wrote changes nothing -/
theorem splice_splice_tail (a : List α) (p : Nat) (x : α) (xs : List α) (h : p + 1 + xs.length ≤ a.length) :
    splice (splice a p (x :: xs)) (p + 1) xs = splice a p (x :: xs) :=
  splice_append_tail a p [x] xs (Nat.le_trans (Nat.le_add_right p (1 + xs.length)) (Nat.add_assoc p 1 _ ▸ h))

theorem splice_full (a r : List α) (h : r.length = a.length) : splice a 0 r = r := by
  simp [splice, h]

theorem arr_setArr_same (m : Mem α) (a : Nat) (l : List α) (h : a < m.length) : (m.setArr a l).arr a = l := by
  simp [Mem.setArr, Mem.arr, h]

theorem arr_setArr_other (m : Mem α) (a c : Nat) (l : List α) (h : c ≠ a) : (m.setArr a l).arr c = m.arr c := by
  simp [Mem.setArr, Mem.arr, List.getD_eq_getElem?_getD, List.getElem?_set_ne (Ne.symm h)]

@[simp] theorem setArr_length (m : Mem α) (a : Nat) (l : List α) : (m.setArr a l).length = m.length := by
  simp [Mem.setArr]

theorem arr_append_new (m : Mem α) (l : List α) (c : Nat) :
    (m ++ [l]).arr c = if c = m.length then l else m.arr c := by
  unfold Mem.arr
  rw [List.getD_eq_getElem?_getD, List.getD_eq_getElem?_getD]
  rcases Nat.lt_trichotomy c m.length with h | rfl | h
  · rw [if_neg (Nat.ne_of_lt h), List.getElem?_append_left h]
  · rw [if_pos rfl, List.getElem?_append_right (Nat.le_refl _), Nat.sub_self]; rfl
  · rw [if_neg (Nat.ne_of_gt h), List.getElem?_eq_none (by rw [List.length_append]; exact h),
      List.getElem?_eq_none (Nat.le_of_lt h)]

theorem read_ok [Inhabited α] (m : Mem α) (s : Slice) (i : Nat) (h : i < s.len) :
    Mem.read m s (i : Int) = .ok ((m.arr s.arr).getD (s.off + i) default) := by
  rw [Mem.read, if_pos ⟨Int.natCast_nonneg i, Int.ofNat_lt.mpr h⟩, Int.toNat_natCast]

theorem write_ok (m : Mem α) (s : Slice) (i : Nat) (v : α) (h : i < s.len) :
    Mem.write m s (i : Int) v = .ok (m.setArr s.arr ((m.arr s.arr).set (s.off + i) v)) := by
  rw [Mem.write, if_pos ⟨Int.natCast_nonneg i, Int.ofNat_lt.mpr h⟩, Int.toNat_natCast]

theorem sub_ok (s : Slice) (lo hi : Nat) (h1 : lo ≤ hi) (h2 : hi ≤ s.cap) :
    Slice.sub s (lo : Int) (hi : Int) = .ok ⟨s.arr, s.off + lo, hi - lo, s.cap - lo⟩ := by
  rw [Slice.sub, if_pos ⟨Int.natCast_nonneg lo, Int.ofNat_le.mpr h1, Int.ofNat_le.mpr h2⟩, Int.toNat_natCast, Int.toNat_sub]

theorem make_ok [Inhabited α] (m : Mem α) (n : Nat) (h : IsInt64 (n : Int)) :
    Mem.make m (n : Int) = .ok (m ++ [List.replicate n default], ⟨m.length, 0, n, n⟩) := by
  rw [Mem.make, if_pos ⟨Int.natCast_nonneg n, h.2⟩, Int.toNat_natCast]

theorem copy_eq (m : Mem α) (dst src : Slice) :
    Mem.copy m dst src = m.setArr dst.arr (splice (m.arr dst.arr) dst.off ((m.view src).take (min dst.len src.len))) := by
  simp [Mem.copy, splice]

/-! Every store of the subset (`s[i] = v`, `copy(dst, src)`) lays a list of values over a slice from some position
  on: a loop that fills a window states its result with `put` (one that permutes a whole array, with `setArr`). -/

/-- the values `r` laid over slice `s` from its position `k` on -/
def Mem.put (m : Mem α) (s : Slice) (k : Nat) (r : List α) : Mem α :=
  m.setArr s.arr (splice (m.arr s.arr) (s.off + k) r)

/-- slice `s` shows `s.len` values of an array that exists -/
structure Mem.Holds (m : Mem α) (s : Slice) : Prop where
  arr : s.arr < m.length
  fit : s.off + s.len ≤ (m.arr s.arr).length

theorem window_length (B : List α) (off len : Nat) (h : off + len ≤ B.length) : ((B.drop off).take len).length = len :=
  List.length_take_of_le (by rw [List.length_drop]; exact Nat.le_sub_of_add_le' h)

theorem setArr_arr_self (m : Mem α) (a : Nat) : m.setArr a (m.arr a) = m := by
  unfold Mem.setArr Mem.arr
  by_cases h : a < m.length
  · rw [List.getD_eq_getElem?_getD, List.getElem?_eq_getElem h, Option.getD_some, List.set_getElem_self]
  · exact List.set_eq_of_length_le (Nat.le_of_not_lt h)

theorem setArr_setArr (m : Mem α) (a : Nat) (x y : List α) : (m.setArr a x).setArr a y = m.setArr a y := by
  simp [Mem.setArr]

theorem put_nil (m : Mem α) (s : Slice) (k : Nat) : m.put s k [] = m := by
  rw [Mem.put, splice_nil, setArr_arr_self]

theorem arr_put_self (m : Mem α) (s : Slice) (k : Nat) (r : List α) (h : s.arr < m.length) :
    (m.put s k r).arr s.arr = splice (m.arr s.arr) (s.off + k) r := arr_setArr_same _ _ _ h

theorem view_put_other (m : Mem α) (s t : Slice) (k : Nat) (r : List α) (h : t.arr ≠ s.arr) :
    (m.put s k r).view t = m.view t := by
  rw [Mem.view, Mem.put, arr_setArr_other _ _ _ _ h, Mem.view]

/-- out of range `splice` only lengthens the array, so `Holds` survives any `k`, `r` -/
theorem Mem.Holds.put {m : Mem α} {s : Slice} (h : m.Holds s) (k : Nat) (r : List α) : (m.put s k r).Holds s :=
  ⟨by rw [Mem.put, setArr_length]; exact h.arr, by
    rw [arr_put_self _ _ _ _ h.arr]; exact Nat.le_trans h.fit (le_splice_length _ _ _)⟩

theorem Mem.Holds.le {m : Mem α} {s : Slice} (h : m.Holds s) {k : Nat} (hk : k ≤ s.len) : s.off + k ≤ (m.arr s.arr).length :=
  Nat.le_trans (Nat.add_le_add_left hk _) h.fit

theorem put_put {m : Mem α} {s : Slice} (h : m.Holds s) (k : Nat) (r1 r2 : List α) (hk : k ≤ s.len) :
    (m.put s k r1).put s (k + r1.length) r2 = m.put s k (r1 ++ r2) := by
  rw [Mem.put, arr_put_self _ _ _ _ h.arr, Mem.put, setArr_setArr, ← Nat.add_assoc, splice_append _ _ _ _ (h.le hk), Mem.put]

theorem put_cons {m : Mem α} {s : Slice} (h : m.Holds s) (k : Nat) (x : α) (xs : List α) (hk : k ≤ s.len) :
    (m.put s k [x]).put s (k + 1) xs = m.put s k (x :: xs) :=
  put_put h k [x] xs hk

theorem put_put_tail {m : Mem α} {s : Slice} (h : m.Holds s) (k : Nat) (x : α) (xs : List α) (hk : k ≤ s.len) :
    (m.put s k (x :: xs)).put s (k + 1) xs = m.put s k (x :: xs) := by
  rw [Mem.put, arr_put_self _ _ _ _ h.arr, Mem.put, setArr_setArr, ← Nat.add_assoc]
  exact congrArg _ (splice_append_tail _ _ [x] xs (h.le hk))

theorem put_full {m : Mem α} {s : Slice} (r : List α) (hoff : s.off = 0) (hr : r.length = (m.arr s.arr).length) :
    m.put s 0 r = m.setArr s.arr r := by
  rw [Mem.put, hoff, splice_full _ _ hr]

theorem write_eq_put {m : Mem α} {s : Slice} (h : m.Holds s) (i : Nat) (v : α) (hi : i < s.len) :
    Mem.write m s (i : Int) v = .ok (m.put s i [v]) := by
  rw [write_ok m s i v hi, Mem.put, set_eq_splice _ _ _ (Nat.lt_of_lt_of_le (Nat.add_lt_add_left hi _) h.fit)]

theorem read_of_view [Inhabited α] (m : Mem α) (s : Slice) (i : Nat) (a : α) (h : (m.view s)[i]? = some a) :
    Mem.read m s (i : Int) = .ok a := by
  rw [Mem.view, List.getElem?_take] at h
  by_cases hi : i < s.len
  · rw [if_pos hi, List.getElem?_drop] at h
    rw [read_ok m s i hi, List.getD_eq_getElem?_getD, h]; rfl
  · rw [if_neg hi] at h; cases h

theorem copy_eq_put (m : Mem α) (dst src : Slice) (h : (m.view src).length ≤ dst.len) :
    Mem.copy m dst src = m.put dst 0 (m.view src) := by
  rw [copy_eq, Mem.put, Nat.add_zero, List.take_of_length_le (Nat.le_min.mpr ⟨h, List.length_take_le _ _⟩)]

/-- what a caller is promised about a fresh array: it is the last one, and the older ones are as they were -/
theorem arr_fresh (m : Mem α) (l : List α) :
    (m ++ [l]).arr m.length = l ∧ (m ++ [l]).length = m.length + 1 ∧
      ∀ c, c < m.length → (m ++ [l]).arr c = m.arr c :=
  ⟨by rw [arr_append_new, if_pos rfl], List.length_append,
    fun c hc => by rw [arr_append_new, if_neg (Nat.ne_of_lt hc)]⟩

theorem copy_fresh (m : Mem α) (z : List α) (src : Slice) (h : m.Holds src) (hz : z.length = src.len) :
    Mem.copy (m ++ [z]) ⟨m.length, 0, src.len, src.len⟩ src = m ++ [m.view src] := by
  have hv : (m.view src).length = src.len := window_length _ _ _ h.fit
  have e : (m ++ [z]).view src = m.view src := by
    rw [Mem.view, arr_append_new, if_neg (Nat.ne_of_lt h.arr), Mem.view]
  rw [copy_eq_put _ _ _ (by rw [e]; exact Nat.le_of_eq hv), e,
    put_full _ rfl (by rw [arr_append_new, if_pos rfl]; exact hv.trans hz.symm)]
  simp [Mem.setArr]

/-- `copy` out of a fresh array (an operand's `AsArray()`) onto a slice of an older array that is as long -/
theorem copy_alloc (m : Mem α) (l : List α) (dst : Slice) (hd : dst.arr < m.length) (hl : dst.len = l.length) :
    Mem.copy (Mem.alloc m l).1 dst (Mem.alloc m l).2
      = (m ++ [l]).setArr dst.arr (splice (m.arr dst.arr) dst.off l) := by
  have fresh : (Mem.alloc m l).1.view (Mem.alloc m l).2 = l := by
    dsimp only [Mem.alloc, Mem.view]
    rw [arr_append_new, if_pos rfl, List.drop_zero, List.take_length]
  rw [copy_eq_put _ _ _ (by rw [fresh, hl]; exact Nat.le_refl _), fresh, Mem.put, Nat.add_zero]
  dsimp only [Mem.alloc]
  rw [arr_append_new, if_neg (Nat.ne_of_lt hd)]

/-- `make([]V, len(s))` and then `copy(array, s)`, as the translator writes them -/
theorem make_copy [Inhabited α] (m : Mem α) (src : Slice) (h : m.Holds src) (hint : IsInt64 (src.len : Int)) :
    bindE (Mem.make m (src.len : Int)) (fun r => some (.ok (r.2, Mem.copy r.1 r.2 src)))
      = some (.ok (⟨m.length, 0, (m.view src).length, (m.view src).length⟩, m ++ [m.view src])) := by
  have hv : (m.view src).length = src.len := window_length _ _ _ h.fit
  rw [make_ok m _ hint, bindE_ok, hv]
  exact congrArg (fun m' => some (Except.ok (_, m'))) (copy_fresh m _ src h List.length_replicate)

/-- `s[lo : lo+len]` -/
def Slice.cut (s : Slice) (lo len : Nat) : Slice := ⟨s.arr, s.off + lo, len, s.cap - lo⟩

theorem sub_cut (s : Slice) (lo len : Nat) (h : lo + len ≤ s.len) (hc : s.len ≤ s.cap) :
    Slice.sub s (lo : Int) ((lo + len : Nat) : Int) = .ok (s.cut lo len) := by
  rw [sub_ok s lo (lo + len) (Nat.le_add_right _ _) (Nat.le_trans h hc), Nat.add_sub_cancel_left, Slice.cut]

/-- `s[lo:]` -/
theorem sub_cut_end (s : Slice) (lo : Nat) (h : lo ≤ s.len) (hc : s.len ≤ s.cap) :
    Slice.sub s (lo : Int) (s.len : Int) = .ok (s.cut lo (s.len - lo)) :=
  sub_ok s lo s.len h hc

theorem cut_cap (s : Slice) (lo len : Nat) (h : lo + len ≤ s.len) (hc : s.len ≤ s.cap) :
    (s.cut lo len).len ≤ (s.cut lo len).cap :=
  Nat.le_sub_of_add_le' (Nat.le_trans h hc)

theorem view_cut (m : Mem α) (s : Slice) (lo len : Nat) (h : lo + len ≤ s.len) :
    m.view (s.cut lo len) = ((m.view s).drop lo).take len := by
  simp only [Mem.view, Slice.cut]
  rw [List.drop_take, List.drop_drop, List.take_take, Nat.min_eq_left (Nat.le_sub_of_add_le' h)]

theorem put_cut (m : Mem α) (s : Slice) (lo len k : Nat) (r : List α) : m.put (s.cut lo len) k r = m.put s (lo + k) r := by
  simp only [Mem.put, Slice.cut, Nat.add_assoc]

/-- `copy(dst[k:], src[i:])` when what is left of `src` fits into what is left of `dst` -/
theorem copy_rest (m : Mem α) (dst src : Slice) (k i : Nat) (h : src.len + k ≤ dst.len + i) :
    Mem.copy m (dst.cut k (dst.len - k)) (src.cut i (src.len - i)) = m.put dst k ((m.view src).drop i) := by
  have view_rest : m.view (src.cut i (src.len - i)) = (m.view src).drop i := by
    simp only [Mem.view, Slice.cut, List.drop_take, List.drop_drop]
  have viewLen : (m.view src).length ≤ src.len := List.length_take_le _ _
  have fits : ((m.view src).drop i).length ≤ dst.len - k := by rw [List.length_drop]; omega
  rw [copy_eq_put _ _ _ (view_rest ▸ fits), view_rest, put_cut, Nat.add_zero]

theorem Mem.Holds.cut {m : Mem α} {s : Slice} (h : m.Holds s) (lo len : Nat) (h1 : lo + len ≤ s.len) :
    m.Holds (s.cut lo len) :=
  ⟨h.arr, Nat.add_assoc _ _ _ ▸ h.le h1⟩

end GoSem
end CM
