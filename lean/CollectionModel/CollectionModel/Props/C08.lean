/-
  C08 — CompareValues is structural equality and agrees with ranking.
  Proved on the universe `U` (no Go maps, no complex numbers); see Props/C07 for what is
  missing and why.
-/
import CollectionModel.Props.C07
namespace CM
open CM.Coll

/-- **CompareValues returns true exactly when RankValues returns Equal** -/
theorem C08_agrees_with_rank (max f d f' d' : Nat) (a b : Val) (v : Bool) (r : Rank)
    (ha : inU a = true) (hb : inU b = true)
    (h1 : cmp max f d a b = .ok v) (h2 : rank max f' d' a b = .ok r) : v = (r == .eq) := by
  rw [rank_sound max f' d' a b r ha hb h2, Bool.eq_iff_iff, cmp_iff_enc_eq max f d a b v ha hb h1, beq_iff_eq, cmpT_eq_iff]

/-- **structural equality**: true exactly when the two values have the same canonical image
    (same kinds, same element order, same key/value pairing, same leaves) – so two values
    built independently from equal parts compare equal, and changing any single part
    (which changes the image) makes them unequal -/
theorem C08_structural (max f d : Nat) (a b : Val) (v : Bool) (ha : inU a = true) (hb : inU b = true)
    (h : cmp max f d a b = .ok v) : v = true ↔ enc a = enc b := cmp_iff_enc_eq max f d a b v ha hb h

/-- **reflexive** -/
theorem C08_refl (max f d : Nat) (a : Val) (v : Bool) (ha : inU a = true)
    (h : cmp max f d a a = .ok v) : v = true :=
  (C08_structural max f d a a v ha ha h).mpr rfl

/-- **symmetric** -/
theorem C08_symm (max f d f' d' : Nat) (a b : Val) (v w : Bool) (ha : inU a = true) (hb : inU b = true)
    (h1 : cmp max f d a b = .ok v) (h2 : cmp max f' d' b a = .ok w) : v = w :=
  Bool.eq_iff_iff.mpr ((C08_structural max f d a b v ha hb h1).trans
    (eq_comm.trans (C08_structural max f' d' b a w hb ha h2).symm))

/-- **transitive** -/
theorem C08_trans (max f1 d1 f2 d2 f3 d3 : Nat) (a b c : Val) (v : Bool)
    (ha : inU a = true) (hb : inU b = true) (hc : inU c = true)
    (h1 : cmp max f1 d1 a b = .ok true) (h2 : cmp max f2 d2 b c = .ok true)
    (h3 : cmp max f3 d3 a c = .ok v) : v = true := by
  have e1 := (C08_structural max f1 d1 a b true ha hb h1).mp rfl
  have e2 := (C08_structural max f2 d2 b c true hb hc h2).mp rfl
  exact (C08_structural max f3 d3 a c v ha hc h3).mpr (e1.trans e2)

def nest : Nat → Val → Val
  | 0, leaf => leaf
  | n+1, leaf => .coll .list [nest n leaf]

/-- **a value nested deeper than the limit ends in the depth-limit panic – never a hang** –
    both when ranked and when compared (self-containing values are exactly the values whose
    every finite unfolding is deeper than the limit) -/
theorem C08_deep_panics (max : Nat) (leaf : Val) : ∀ (k d f n : Nat), d + k = max → k < n → 3 * k + 3 ≤ f →
    rank max f d (nest n leaf) (nest n leaf) = .depth ∧ cmp max f d (nest n leaf) (nest n leaf) = .depth
  -- a level of nesting costs three units of fuel (`rank` → `rankArr` → `rankPrefix` → `rank`, and
  -- `cmp` → `cmpArr` → `cmpList` → `cmp`); the depth check is in the second
  | 0, d, f, n, hd, hn, hf => by
    obtain ⟨m, rfl⟩ := Nat.exists_eq_add_one_of_ne_zero (Nat.ne_zero_of_lt hn)
    obtain ⟨g, rfl⟩ := Nat.exists_eq_add_of_le' (Nat.le_of_succ_le hf)
    obtain rfl : d = max := hd
    exact ⟨by rw [nest, rank_coll, rankArr_succ, if_pos rfl], by rw [nest, cmp_coll, cmpArr_succ, if_pos rfl]⟩
  | k+1, d, f, n, hd, hn, hf => by
    obtain ⟨m, rfl⟩ := Nat.exists_eq_add_one_of_ne_zero (Nat.ne_zero_of_lt hn)
    obtain ⟨g, rfl⟩ := Nat.exists_eq_add_of_le' (Nat.le_trans (Nat.le_add_left 3 _) hf)
    have hne : ¬ d = max := Nat.ne_of_lt (hd ▸ Nat.lt_add_of_pos_right k.succ_pos)
    have hd' : d + 1 + k = max := (Nat.add_right_comm d 1 k).trans hd
    -- `3 * (k + 1)` unfolds to `3 * k + 3`
    have hf' : 3 * k + 3 ≤ g := Nat.le_of_add_le_add_right hf
    have ih := C08_deep_panics max leaf k (d+1) g m hd' (Nat.lt_of_succ_lt_succ hn) hf'
    constructor
    · rw [nest, rank_coll, rankArr_succ, if_neg hne, if_neg (Nat.lt_irrefl _), rankPrefix_cons, ih.1]
    · rw [nest, cmp_coll, cmpArr_succ, if_neg hne, if_neg (not_not_intro rfl), cmpList_cons, ih.2]

/-- **afterwards the same collator (and any other) still works**: the public calls leave the
    collator's state exactly as they found it, whether they return or panic -/
theorem C08_collator_reusable (c : Collator) (a b x y : Val) :
    (compareValues (compareValues c a b).2 x y).1 = (compareValues c x y).1 ∧
    (rankValues (rankValues c a b).2 x y).1 = (rankValues c x y).1 := ⟨rfl, rfl⟩

/-- **recorded finding (complex numbers)**: two different complex numbers whose computed
    magnitude and phase coincide rank Equal but compare unequal -/
theorem C08_counterexample_complex :
    let a : Cx := { re := .num 9, im := .num 1, abs := .num 9, ph := .num 0 }   -- 1e300+1e-300i
    let b : Cx := { re := .num 9, im := .num 2, abs := .num 9, ph := .num 0 }   -- 1e300+2e-300i
    rankCx a b = .eq ∧ eqCx a b = false := by decide

example : (nest 2 (.int 7)) = .coll .list [.coll .list [.int 7]] := rfl

end CM
