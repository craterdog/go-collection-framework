/-
  C01 — List and Array behave as an ordinal-indexed sequence under every history.

  The model (`Seq.step`, mirroring list.go / array.go loop by loop) refines the
  abstract sequence specification `SeqSpec.allowed` for EVERY state, operation,
  index, slot, range and operand — and therefore for every finite history.
-/
import CollectionModel.Lemmas.SeqLemmas
import CollectionModel.Lemmas.SorterLemmas
namespace CM
open CM.Seq CM.SeqSpec CM.Sorter

variable {α : Type}

variable [Inhabited α] [DecidableEq α]

/-- the shuffle operation is modelled with the index stream `crypto/rand` supplied;
    Go guarantees one index in `[0,size)` per position -/
def Op.wf (s : List α) : Op α → Prop
  | .shuffle rs => rs.length ≤ s.length ∧ ∀ r ∈ rs, r < s.length
  | _ => True

/-- **C01, one step**: for every state, every operation and every argument the
    model's observation is one the abstract ordinal-indexed sequence allows:
    in-range calls return exactly the take/drop result, out-of-range calls
    panic and leave the sequence unchanged, nothing is invented, dropped or
    reordered, and no call hangs. -/
theorem C01_step_refines (eqv : α → α → Bool) (rank : α → α → Rank) (hr : TotalPreorder rank)
    (s : List α) (op : Op α) (hwf : Op.wf s op) :
    allowed eqv rank s op (step eqv rank s op) = true := by
  -- the spec addresses by `pos`, the model by `toZeroBased` (`pos_eq`); once the operation is in
  -- closed form each outcome is the one the spec names (`isRet_ret`, `isPanic_panic`)
  cases op with
  | getValue i | removeValue i =>
    dsimp only [allowed, step, getValue]
    simp only [removeValue_eq, pos_eq]
    cases h : toZeroBased s.length i with
    | error c => exact isPanic_panic s c
    | ok p =>
      have hp := toZeroBased_lt h
      dsimp only [Except.toOption, Except.map]
      rw [List.getElem?_eq_getElem hp]
      exact isRet_ret rfl (congrArg Res.val (List.getElem_eq_getD default).symm)
  | getValues f l | removeValues f l =>
    dsimp only [allowed, step, getValues]
    simp only [removeValues_eq, pos_eq]
    cases toZeroBased s.length f with
    | error c => exact isPanic_panic s c
    | ok pf =>
      cases toZeroBased s.length l with
      | error c => exact isPanic_panic s c
      | ok pl =>
        dsimp only [Except.toOption]
        by_cases h2 : pf > pl + 1
        · -- Go's slice expression refuses a range that ends before it starts
          rw [if_pos h2, if_neg (Nat.not_le_of_gt (Nat.lt_of_succ_lt h2))]; exact isPanic_panic s .rt
        · rw [if_neg h2]
          by_cases h1 : pf ≤ pl
          · rw [if_pos h1]; exact isRet_ret rfl rfl
          · -- `pf = pl + 1`: the empty range
            obtain rfl : pf = pl + 1 := Nat.le_antisymm (Nat.le_of_not_lt h2) (Nat.lt_of_not_le h1)
            rw [if_neg h1, Nat.sub_self]
            exact Bool.or_eq_true_iff.mpr (.inl (isRet_ret (by simp) rfl))
  | setValue i v =>
    dsimp only [allowed, step, setValue]
    rw [pos_eq]
    cases toZeroBased s.length i with
    | error c => exact isPanic_panic s c
    | ok p => exact isRet_ret rfl rfl
  | setValues i vs =>
    dsimp only [allowed, step, setValues]
    cases vs with
    | nil =>
      -- an empty operand may be refused or accepted; accepted, nothing is written
      rw [if_pos List.isEmpty_nil]
      cases h : toZeroBased s.length i with
      | error c => exact Bool.or_eq_true_iff.mpr (.inr (isPanic_panic s c))
      | ok p =>
        dsimp only
        rw [List.length_nil, Nat.add_zero, if_neg (Nat.not_lt.mpr (Nat.le_of_lt (toZeroBased_lt h)))]
        exact Bool.or_eq_true_iff.mpr (.inl (isRet_ret (by simp [overwrite]) rfl))
    | cons v vs =>
      rw [pos_eq]
      cases toZeroBased s.length i with
      | error c => exact isPanic_panic s c
      | ok p =>
        dsimp only [Except.toOption]
        by_cases hb : p + (v :: vs).length ≤ s.length
        · rw [if_neg (Nat.not_lt.mpr hb), if_pos hb]; exact isRet_ret rfl rfl
        · rw [if_pos (Nat.lt_of_not_le hb), if_neg hb]; exact isPanic_panic s .outOfRange
  | insertValue slot _ | insertValues slot _ =>
    dsimp only [allowed, step]
    simp only [insertValue_eq, insertValues_eq]
    by_cases h : slot ≤ s.length
    · rw [if_pos h, if_pos h]; exact isRet_ret rfl rfl
    · rw [if_neg h, if_neg h]; exact isPanic_panic s .slot
  | getIndex v => exact isRet_ret rfl (congrArg Res.nat (getIndex_spec eqv s v))
  | containsValue v => exact isRet_ret rfl (congrArg Res.bool (containsValue_spec eqv s v))
  | containsAny vs => exact isRet_ret rfl (congrArg Res.bool (containsAny_spec eqv s vs))
  | containsAll vs => exact isRet_ret rfl (congrArg Res.bool (containsAll_spec eqv s vs))
  | sort =>
    dsimp only [allowed, step]
    rw [arraySort_eq]
    refine isRetWhere_ret .unit ?_
    exact Bool.and_eq_true_iff.mpr ⟨List.isPerm_iff.mpr (sortValues_perm rank s),
      ascending_of_asc rank _ (sortValues_asc rank hr s)⟩
  | reverse => exact isRet_ret (reverseValues_eq s) rfl
  | shuffle rs =>
    exact isRetWhere_ret .unit (List.isPerm_iff.mpr (shuffleValues_perm rs s hwf.1 hwf.2))
  | make vs => exact isRet_ret (makeFromSequence_spec vs) rfl
  | concatenate a b => exact isRet_ret (concatenate_spec a b) rfl
  | removeAll => exact isRet_ret (s := []) rfl rfl
  | appendValue _ | appendValues _ | asArray | iterate | getSize | isEmpty => exact isRet_ret rfl rfl

omit [DecidableEq α] in
/-- a call returns, or panics and leaves the sequence as it was; only `InsertValues` has a loop
    that could fail to end, and `insertValues_eq` says it ends -/
theorem Seq.step_ret_or_panic (eqv : α → α → Bool) (rank : α → α → Rank) (s : List α) (op : Op α) :
    (∃ s' r, step eqv rank s op = .ret s' r) ∨ ∃ c, step eqv rank s op = .panic s c := by
  have obs (e : Except Panic (List α)) :
      (∃ s' r, obsOf s e = .ret s' r) ∨ ∃ c, obsOf s e = .panic s c := by
    cases e with
    | ok s' => exact .inl ⟨s', .unit, rfl⟩
    | error c => exact .inr ⟨c, rfl⟩
  cases op with
  | insertValues slot vs => dsimp only [step]; rw [insertValues_eq]; exact obs _
  | setValue _ _ | setValues _ _ | insertValue _ _ => exact obs _
  | getValue _ | getValues _ _ | removeValue _ | removeValues _ _ =>
    dsimp only [step]; split
    · exact .inl ⟨_, _, rfl⟩
    · exact .inr ⟨_, rfl⟩
  | _ => exact .inl ⟨_, _, rfl⟩

/-- **every call returns** (no modelled call can run for ever) -/
theorem C01_returns (eqv : α → α → Bool) (rank : α → α → Rank) (s : List α) (op : Op α) :
    step eqv rank s op ≠ .hang := by
  rcases step_ret_or_panic eqv rank s op with ⟨s', r, e⟩ | ⟨c, e⟩
  · rw [e]; nofun
  · rw [e]; nofun

/-- state left behind by an observation (a hanging call leaves none) -/
def Obs.state : Obs α → List α → List α
  | .ret s _, _ => s
  | .panic s _, _ => s
  | .hang, s => s

def run (eqv : α → α → Bool) (rank : α → α → Rank) : List α → List (Op α) → List (List α × Op α × Obs α)
  | _, [] => []
  | s, op :: ops =>
    let o := step eqv rank s op
    (s, op, o) :: run eqv rank (Obs.state o s) ops

/-- **C01, every finite history**: along any sequence of operations from any
    state, every observation is allowed by the abstract sequence in the state
    the previous call left behind. -/
theorem C01_history (eqv : α → α → Bool) (rank : α → α → Rank) (hr : TotalPreorder rank) :
    ∀ (ops : List (Op α)) (s : List α), (∀ op ∈ ops, ∀ t, Op.wf t op) →
      ∀ x ∈ run eqv rank s ops, allowed eqv rank x.1 x.2.1 x.2.2 = true := by
  intro ops
  induction ops with
  | nil => exact fun _ _ _ hx => nomatch hx
  | cons op ops ih =>
    intro s hwf x hx
    rcases List.mem_cons.mp hx with rfl | hx
    · exact C01_step_refines eqv rank hr s op (hwf op List.mem_cons_self s)
    · exact ih _ (fun o ho => hwf o (List.mem_cons_of_mem op ho)) x hx

/-- **a panicking call leaves the sequence unchanged** -/
theorem C01_panic_unchanged (eqv : α → α → Bool) (rank : α → α → Rank) (s : List α) (op : Op α)
    (s' : List α) (c : Panic) (h : step eqv rank s op = .panic s' c) : s' = s := by
  rcases step_ret_or_panic eqv rank s op with ⟨_, _, e⟩ | ⟨_, e⟩
  · rw [e] at h; cases h
  · rw [e] at h; cases h; rfl

/-- frame: inserting touches exactly the addressed slot -/
theorem C01_insert_frame (l : List α) (slot : Nat) (v : α) (h : slot ≤ l.length) :
    ∃ l', insertValue l slot v = .ok l' ∧ l'.take slot = l.take slot ∧ l'[slot]? = some v ∧
      l'.drop (slot + 1) = l.drop slot := by
  have len : (l.take slot).length = slot := List.length_take_of_le h
  refine ⟨_, by rw [insertValue_eq, if_pos h], List.take_left' len, ?_, ?_⟩
  · rw [List.getElem?_append_right (Nat.le_of_eq len), len, Nat.sub_self]; rfl
  · rw [List.append_cons]
    exact List.drop_left' (by rw [List.length_append, len]; rfl)

/-- non-vacuity: the out-of-range and in-range branches are both inhabited -/
example : step (fun a b => a == b) rankInt [1, 2, 3] (.insertValue 5 9) = .panic [1, 2, 3] .slot := by decide
example : step (fun a b => a == b) rankInt [1, 2, 3] (.insertValues 1 []) = .ret [1, 2, 3] .unit := by decide
example : step (fun a b => a == b) rankInt [1, 2, 3] (.setValues (-3) [7, 8, 9, 10, 11]) = .panic [1, 2, 3] .outOfRange := by decide
example : step (fun a b => a == b) rankInt [1, 2, 3] (.removeValues (-2) 3) = .ret [1] (.vals [2, 3]) := by decide

end CM
