/-
  C13 — Stack is LIFO and never holds more values than its capacity.
-/
import CollectionModel.Model.Stack
import CollectionModel.Lemmas.SeqLemmas
namespace CM
open CM.Seq CM.Stack

variable {α : Type}

theorem Stack.makeFrom_bounded (dflt : Nat) (vs : List α) : Bounded (makeFrom dflt vs) := by
  dsimp only [Bounded, makeFrom]
  by_cases h : (makeFromSequence vs).length > dflt
  · rw [if_pos h]; exact Nat.le_refl _
  · rw [if_neg h]; exact Nat.le_of_not_gt h

variable [Inhabited α]

theorem Stack.addValue_eq (s : St α) (v : α) :
    addValue s v = if s.vals.length = s.cap then .panic s .stackFull
      else .ret { s with vals := v :: s.vals } .unit := by
  unfold addValue
  rw [insertValue_eq, if_pos (Nat.zero_le _)]; rfl

theorem Stack.removeTop_eq (s : St α) :
    removeTop s = match s.vals with
      | [] => .panic s .stackEmpty
      | x :: xs => .ret { s with vals := xs } (.val x) := by
  obtain ⟨cap, vals⟩ := s
  cases vals with
  | nil => rfl
  | cons x xs =>
    have h : removeValue (x :: xs) 1 = .ok (x, xs) := by
      rw [removeValue_eq, show (1 : Int) = ((0 : Nat) : Int) + 1 from rfl,
        toZeroBased_succ (n := (x :: xs).length) (Nat.succ_pos _)]; rfl
    simp [removeTop, h]

variable [DecidableEq α]

/-- **LIFO refinement, one step**: every call of the model (guards + list
    rebuild loops) is allowed by the abstract LIFO stack, for every capacity ≥ 1,
    every state within its capacity and every operation. -/
theorem C13_step_refines (dflt : Nat) (hd : 1 ≤ dflt) (s : St α) (hs : Bounded s) (op : Stack.Op α) :
    Stack.allowed s op (Stack.step dflt s op) = true := by
  -- the spec compares with the observation it expects: decide both guards alike, then `beq_self_eq_true`
  cases op with
  | make => exact Bool.and_eq_true_iff.mpr ⟨rfl, decide_eq_true hd⟩
  | makeWithCapacity c =>
    dsimp only [Stack.allowed, Stack.step]
    by_cases h : c ≥ 1
    · rw [if_pos h, if_neg (Nat.not_lt.mpr h)]; exact beq_self_eq_true _
    · rw [if_neg h, if_pos (Nat.lt_of_not_le h)]; exact beq_self_eq_true s
  | makeFrom vs =>
    exact Bool.and_eq_true_iff.mpr
      ⟨beq_iff_eq.mpr (makeFromSequence_spec vs), decide_eq_true (makeFrom_bounded dflt vs)⟩
  | addValue v =>
    dsimp only [Stack.allowed, Stack.step]
    rw [addValue_eq]
    by_cases h : s.vals.length = s.cap
    · rw [if_pos h, if_neg (h ▸ Nat.lt_irrefl _)]; exact beq_self_eq_true s
    · rw [if_neg h, if_pos (Nat.lt_of_le_of_ne hs h)]; exact beq_self_eq_true _
  | removeTop =>
    dsimp only [Stack.allowed, Stack.step]
    rw [removeTop_eq]
    obtain ⟨cap, vals⟩ := s
    cases vals <;> exact beq_self_eq_true _
  | removeAll | asArray | iterate | getSize | getCapacity | isEmpty => exact beq_self_eq_true _

/-- **capacity bound, one step**: no call – constructor or mutator – leaves a
    stack holding more values than its capacity. -/
theorem C13_step_bounded (dflt : Nat) (hd : 1 ≤ dflt) (s : St α) (hs : Bounded s) (op : Stack.Op α) :
    Bounded (Stack.Obs.state (Stack.step dflt s op) s) := by
  cases op with
  | make => exact Nat.zero_le _
  | makeWithCapacity c =>
    dsimp only [Stack.step]; split
    · exact hs
    · exact Nat.zero_le _
  | makeFrom vs => exact makeFrom_bounded dflt vs
  | addValue v =>
    dsimp only [Stack.step]
    rw [addValue_eq]
    by_cases h : s.vals.length = s.cap
    · rw [if_pos h]; exact hs
    · rw [if_neg h]; exact Nat.succ_le_of_lt (Nat.lt_of_le_of_ne hs h)
  | removeTop =>
    dsimp only [Stack.step]
    rw [removeTop_eq]
    obtain ⟨cap, vals⟩ := s
    cases vals with
    | nil => exact hs
    | cons x xs => exact Nat.le_of_succ_le hs
  | removeAll => exact Nat.zero_le _
  | _ => exact hs

/-- **capacity bound, every history**: after any finite sequence of calls
    starting from any stack within its capacity (in particular from any
    constructor), the number of values never exceeds `GetCapacity()`. -/
theorem C13_bound_history (dflt : Nat) (hd : 1 ≤ dflt) :
    ∀ (ops : List (Stack.Op α)) (s : St α), Bounded s → Bounded (runFrom dflt s ops) := by
  intro ops
  induction ops with
  | nil => exact fun _ hs => hs
  | cons op ops ih => exact fun s hs => ih _ (C13_step_bounded dflt hd s hs op)

/-- every constructor yields a stack within its capacity -/
theorem C13_constructors_bounded (dflt : Nat) (s0 : St α) (vs : List α) (c : Nat) (hc : 1 ≤ c) :
    Bounded (Stack.Obs.state (Stack.step dflt s0 (.makeFrom vs)) s0) ∧
    Bounded (Stack.Obs.state (Stack.step dflt s0 (.makeWithCapacity c)) s0) ∧
    Bounded (Stack.Obs.state (Stack.step dflt s0 (.make : Stack.Op α)) s0) := by
  refine ⟨makeFrom_bounded dflt vs, ?_, Nat.zero_le _⟩
  dsimp only [Stack.step]; rw [if_neg (Nat.not_lt.mpr hc)]; exact Nat.zero_le _

/-- a panicking call (full / empty / bad capacity) leaves the stack unchanged -/
theorem C13_panic_unchanged (dflt : Nat) (s : St α) (op : Stack.Op α) (s' : St α) (c : Panic)
    (h : Stack.step dflt s op = .panic s' c) : s' = s := by
  cases op with
  -- each of the three is a guard: the panic it raises carries `s`, the other branch returns
  | makeWithCapacity c =>
    dsimp only [Stack.step] at h; split at h
    · cases h; rfl
    · cases h
  | addValue v =>
    dsimp only [Stack.step] at h; rw [addValue_eq] at h; split at h
    · cases h; rfl
    · cases h
  | removeTop =>
    dsimp only [Stack.step] at h; rw [removeTop_eq] at h; split at h
    · cases h; rfl
    · cases h
  | _ => cases h

/-- non-vacuity: a full stack and the over-long constructor case -/
example : Stack.step 16 ({ cap := 2, vals := [5, 4] } : St Int) (.addValue 9) = .panic { cap := 2, vals := [5, 4] } .stackFull := by decide
example : (Stack.makeFrom 2 [1, 2, 3] : St Int) = { cap := 3, vals := [1, 2, 3] } := by decide

end CM
