/-
  C12 — ParseSource is total: any input ends in a value or a located syntax diagnostic.

  Proved here (for EVERY source string): the shape of the token stream, the position
  bookkeeping behind the diagnostics, and the safety of the diagnostic formatter's line
  lookup.  The totality of the recursive-descent parser over every such stream
  (`C12_parse_total_statement`) is stated here and PROVED in `Props/C12Total.lean`.
-/
import CollectionModel.Model.Cdcn.Parse
import CollectionModel.Lemmas.ScanHeads
namespace CM
open CM.Cdcn

def isEof (t : Token) : Bool := t.tt == .eof

/-- **the token stream always ends with exactly one EOF token, and an error token can only be
    the one right before it** – for every source and every fuel -/
theorem C12_scan_shape : ∀ (fuel : Nat) (src : Src) (lc : Nat × Nat),
    ∃ ts eof, scanLoop fuel src lc = ts ++ [eof] ∧ isEof eof = true ∧ (∀ t ∈ ts, isEof t = false) ∧
      (∀ t ∈ ts.dropLast, t.tt ≠ .error) := by
  have hnil : ∀ {p : Token → Prop}, ∀ t ∈ ([] : List Token), p t := fun _ h => (List.not_mem_nil h).elim
  intro fuel
  induction fuel with
  | zero => exact fun src lc => ⟨[], { tt := .eof, value := [], line := lc.1, pos := lc.2 }, rfl, rfl, hnil, hnil⟩
  | succ fuel ih =>
    intro src lc
    cases src with
    | nil => exact ⟨[], { tt := .eof, value := [], line := lc.1, pos := lc.2 }, rfl, rfl, hnil, hnil⟩
    | cons c cs =>
      obtain ⟨_, e⟩ | ⟨tt, n, k, hm, _, _, e⟩ := scanLoop_succ c cs lc
      · rw [e]
        exact ⟨[{ tt := .error, value := [c], line := lc.1, pos := lc.2 }], { tt := .eof, value := [], line := lc.1, pos := lc.2 },
          rfl, rfl, fun t ht => by rw [List.mem_singleton.mp ht]; rfl, hnil⟩
      · obtain ⟨ts, eof, hts, heof, hall, hinner⟩ := ih ((c :: cs).drop k) (advance lc ((c :: cs).take k))
        rw [e, hts]
        by_cases hs : tt = .space
        · rw [if_pos hs]; exact ⟨ts, eof, rfl, heof, hall, hinner⟩
        · -- a token of a pattern is neither the end nor an error
          have hne : tt ≠ .eof ∧ tt ≠ .error := matchToken_tt _ tt n hm
          rw [if_neg hs]
          refine ⟨_ :: ts, eof, rfl, heof, ?_, ?_⟩
          · intro t ht
            rcases List.mem_cons.mp ht with rfl | ht
            · exact beq_eq_false_iff_ne.mpr hne.1
            · exact hall t ht
          · intro t ht
            cases ts with
            | nil => cases ht
            | cons x xs =>
              rcases List.mem_cons.mp ht with rfl | ht
              · exact hne.2
              · exact hinner t ht

/-- **every token carries the line and column at which its text begins**: the position is
    obtained by advancing (1,1) over exactly the runes that precede the token in the source,
    a newline starting a new line and any other rune advancing the column -/
theorem C12_token_positions : ∀ (fuel : Nat) (src : Src) (lc : Nat × Nat) (t : Token),
    t ∈ scanLoop fuel src lc → ∃ pre : List Nat, pre.length ≤ src.length ∧ src.take pre.length = pre ∧
      (t.line, t.pos) = advance lc pre := by
  intro fuel src lc t h
  obtain ⟨pre, rest, rfl, h2, _⟩ := scanLoop_mem fuel src lc t h
  exact ⟨pre, by simp, by simp, h2⟩

theorem advance_line (lc : Nat × Nat) (pre : List Nat) :
    (advance lc pre).1 = lc.1 + (pre.filter (· == 10)).length := by
  induction pre generalizing lc with
  | nil => rfl
  | cons x xs ih =>
    show (advance (if x == 10 then (lc.1 + 1, 1) else (lc.1, lc.2 + 1)) xs).1 = _
    rw [ih, List.filter_cons]
    cases x == 10
    · rfl
    · exact Nat.add_right_comm ..

/-- **the diagnostic formatter's source-line lookup is always in range**: every token's line
    lies in `1 .. number of lines of the source` (`lines[line-1]` cannot fail) -/
theorem C12_token_line_in_range (src : Src) (t : Token) (h : t ∈ scan src) :
    1 ≤ t.line ∧ t.line ≤ (src.filter (· == 10)).length + 1 := by
  obtain ⟨pre, h1, h2, h3⟩ := C12_token_positions _ src (1, 1) t h
  have hl := advance_line (1, 1) pre
  have e : t.line = (advance (1, 1) pre).1 := by rw [← h3]
  rw [e, hl]
  have := (List.Sublist.filter (· == 10) (List.take_sublist pre.length src)).length_le
  rw [h2] at this
  exact ⟨Nat.le_add_right 1 _, by rw [Nat.add_comm]; exact Nat.add_le_add_right this 1⟩

/-- outcomes that C12 allows -/
def Cdcn.Parsed.acceptable : Parsed → Bool
  | .value _ => true
  | .diag _ => true
  | _ => false

/-- the full-strength totality statement for the parser model, over every token stream the
    scanner can produce, every literal-conversion oracle and the real stack capacity.
    PROVED in `Props/C12Total.lean` (`C12_parse_total`, `C12_parse_total_statement_holds`). -/
def C12_parse_total_statement : Prop :=
  ∀ (src : Src) (conv : Token → Option Val) (mkSet : List Val → Option Val),
    (∀ items, (mkSet items).isSome) →
    (parseTokens { stackSize := 4, nlines := (src.filter (· == 10)).length + 1, conv := conv, mkSet := mkSet }
      (8 * (scan src).length + 16) (scan src)).acceptable = true

example : (scan ("[1](List)".toList.map ch)).length = 7 := by decide

end CM
