/-
  T2 obligations over the scanner's token patterns regenerated from cdcn/scanner.go
  (Generated/Scanner.lean): the constant-folded regular expression handed to
  regexp.MustCompile for every token type, and the order in which `scanTokens` tries the
  token types.  The recognisers of Model/Cdcn/Scan.lean were written from exactly these
  texts (one recogniser per pattern, named below) and `matchers` lists them in exactly this
  order.  Any change to a pattern or to the order breaks an obligation here; the check then
  searches for a source text on which the real scanner and the recognisers disagree.
-/
import CollectionModel.Generated.Scanner
import CollectionModel.Model.Cdcn.Scan
namespace CM
namespace Tie
open CM.Cdcn

/-- the pattern texts the recognisers implement, with the recogniser and its token type -/
def expectedPatterns : List (String × String × TT) := [
  ("BooleanToken",     "^(?:false|true)", .boolean),                                        -- mBoolean
  ("ComplexToken",     "^(?:\\(([+-]?(?:(?:0|[1-9][0-9]*)\\.[0-9]+)(?:[eE][+-][1-9][0-9]*)?)[+-]([+-]?(?:(?:0|[1-9][0-9]*)\\.[0-9]+)(?:[eE][+-][1-9][0-9]*)?)i\\))", .complex),  -- mComplex
  ("DelimiterToken",   "^(?:\\[|\\]|\\(|\\)|:|,)", .delimiter),                              -- mDelimiter
  ("EOLToken",         "^(?:\\n)", .eol),                                                    -- mEol
  ("FloatToken",       "^(?:[+-]?(?:(?:0|[1-9][0-9]*)\\.[0-9]+)(?:[eE][+-][1-9][0-9]*)?)", .float),   -- mFloat
  ("HexadecimalToken", "^(?:0x[0-9a-f]+)", .hexadecimal),                                    -- mHex
  ("IntegerToken",     "^(?:0|[+-]?[1-9][0-9]*)", .integer),                                 -- mInteger
  ("NilToken",         "^(?:nil)", .nil),                                                    -- mNil
  ("RuneToken",        "^(?:'(\\\\(?:(?:x[0-9a-f]{2}|u[0-9a-f]{4}|U[0-9a-f]{8})|[abfnrtv'\"\\\\])|[^'\\n])')", .rune),   -- mRune, mEscape
  ("SpaceToken",       "^(?:[ ]+)", .space),                                                 -- mSpace
  ("StringToken",      "^(?:\"(\\\\(?:(?:x[0-9a-f]{2}|u[0-9a-f]{4}|U[0-9a-f]{8})|[abfnrtv'\"\\\\])|[^\"\\n])*\")", .string),   -- mString, strBody
  ("TypeToken",        "^(?:Array|Catalog|List|Map|Queue|Set|Stack)", .type)                 -- mType
]

/-- every token pattern in the source is the text its recogniser was written from -/
theorem scanner_patterns_tie :
    Generated.matcherPatterns = expectedPatterns.map (fun e => (e.1, e.2.1)) := rfl

/-- `scanTokens` tries the token types in the order of the model's `matchers` list -/
theorem scanner_order_tie :
    Generated.scanOrder = expectedPatterns.map (·.1) ∧ matchers.map (·.1) = expectedPatterns.map (·.2.2) := ⟨rfl, rfl⟩

end Tie
end CM
