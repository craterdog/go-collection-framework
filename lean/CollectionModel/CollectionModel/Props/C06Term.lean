/-
  C06, termination half — **Fork terminates, closes every output and lets the wait group
  return**, for every input stream, fan-out n ≥ 1, capacity ≥ 1 and interleaving of the
  feeder, the helper goroutine and the n readers (each reading until ok=false).  The potentials of the three
  networks are sums of the parts of Lemmas/Potential.lean; C06TermSplit.lean and C06TermJoin.lean follow this
  file case by case (the progress invariant, the `recv` case of no-deadlock), on purpose: the step relations differ.
-/
import CollectionModel.Props.C06
import CollectionModel.Lemmas.Potential
namespace CM
open CM.Pipes

variable {α : Type}

/-- at `recv`: notice the closed input and close the `n` outputs; at `send v k`: also a send and a later read for
    each of the outputs `k, …, n-1` (with the send the read moves to `bufPot`) -/
def hpot (n : Nat) : H α → Nat
  | .recv => n + 1
  | .send _ k => n + 1 + 2 * (n - k)
  | .close k => n - k
  | .done => 0

theorem hpot_send {n k : Nat} (v : α) (hk : k < n) :
    hpot n (if k + 1 < n then .send v (k + 1) else .recv) + 2 = hpot n (.send v k) := by
  have e : n - k = n - (k + 1) + 1 := (Nat.succ_pred_eq_of_pos (Nat.sub_pos_of_lt hk)).symm
  by_cases hlast : k + 1 < n
  · rw [if_pos hlast]
    show n + 1 + 2 * (n - (k + 1)) + 2 = n + 1 + 2 * (n - k)
    rw [e, Nat.mul_succ, Nat.add_assoc]
  · rw [if_neg hlast]
    show n + 1 + 2 = n + 1 + 2 * (n - k)
    rw [e, Nat.sub_eq_zero_of_le (Nat.not_lt.mp hlast)]

/-- a queued value has 2n+1 steps left: receive, n sends, n reads -/
def forkPot (n : Nat) (s : FS α) : Nat :=
  feedPot (2 * n + 1) s.rest s.inq s.inClosed + hpot n s.h + bufPot n s.buf + rdPot n s.readerDone

/-- **every atomic step does one unit of the remaining work** -/
theorem C06_fork_step_decreases (n cap : Nat) (s t : FS α) (h : Step n cap s t) : forkPot n t < forkPot n s := by
  -- in each case the parts of the potential that the step leaves alone are cancelled; what remains is the lemma
  -- about the part it changes
  cases h with
  | feed v r h1 h2 h3 => simp only [forkPot, h1, Nat.add_lt_add_iff_right]; exact feedPot_feed ..
  | feedClose h1 h3 => simp only [forkPot, h3, Nat.add_lt_add_iff_right]; exact feedPot_close ..
  | hRecv v q h1 h2 => simp only [forkPot, h1, h2, Nat.add_lt_add_iff_right]; exact feedPot_recv (2 * n) (n + 1) ..
  | hRecvClosed h1 h2 h3 =>
    simp only [forkPot, h1, Nat.add_lt_add_iff_right, Nat.add_lt_add_iff_left]; exact Nat.lt_succ_self n
  | hSend v k h1 hk h2 h3 =>
    simp only [forkPot, h1, Nat.add_lt_add_iff_right]
    -- the helper gives up the send and the later read, the buffers gain the read
    exact move_lt (k := 2) (Nat.le_of_eq (hpot_send v hk)) (Nat.le_of_eq (bufPot_push hk ..)) (Nat.lt_succ_self 1)
  | hClose k h1 hk =>
    simp only [forkPot, h1, Nat.add_lt_add_iff_right, Nat.add_lt_add_iff_left]
    exact closing_weight_lt hk (fun _ => rfl) rfl
  | read k v b hk h1 h2 =>
    simp only [forkPot, Nat.add_lt_add_iff_right, Nat.add_lt_add_iff_left]; exact bufPot_pop hk h1
  | readClosed k hk h1 h2 h3 => simp only [forkPot, Nat.add_lt_add_iff_left]; exact rdPot_done hk h3

inductive Run (n cap : Nat) : FS α → Nat → FS α → Prop
  | zero (s) : Run n cap s 0 s
  | succ {s t u m} : Step n cap s t → Run n cap t m u → Run n cap s (m + 1) u

theorem Run.steps {n cap m : Nat} {s u : FS α} (h : Run n cap s m u) : Steps (Step n cap) s m u := by
  induction h with
  | zero => exact .zero _
  | succ hs _ ih => exact .succ hs ih

/-- **no infinite run**: a run of m steps exists only if m ≤ the potential of its first state -/
theorem C06_fork_run_bounded (n cap m : Nat) (s u : FS α) (h : Run n cap s m u) : m + forkPot n u ≤ forkPot n s :=
  (Steps.bounded (I := fun _ => True) (fun _ _ _ _ => trivial) (fun s t _ => C06_fork_step_decreases n cap s t)
    h.steps trivial).2

/-- what the helper has done so far, and what the readers may conclude from it -/
structure ForkProg (n : Nat) (s : FS α) : Prop where
  sendLt : ∀ v k, s.h = .send v k → k < n
  closing : Closing H.close H.done n s.h s.oclosed
  readers : Readers s.buf s.oclosed s.readerDone

theorem fork_prog_reach (input : List α) (n cap : Nat) (hn : 1 ≤ n) (s : FS α) (h : Reach n cap (initFS input) s) : ForkProg n s := by
  induction h with
  | init => exact ⟨nofun, .of_not_closing nofun nofun, nofun, nofun⟩
  | step _ hs hp =>
    cases hs with
    | feed _ _ _ _ _ | feedClose _ _ => exact { hp with }
    | hRecv v q h1 h2 =>
      exact { hp with sendLt := fun _ _ e => by cases e; exact hn, closing := .of_not_closing nofun nofun }
    | hRecvClosed h1 h2 h3 => exact { hp with sendLt := nofun, closing := .start closingPC_H hn }
    | hSend v k h1 hk h2 h3 =>
      exact { hp with
        sendLt := fun v' k' e => by
          by_cases hlast : k + 1 < n
          · rw [if_pos hlast] at e; cases e; exact hlast
          · rw [if_neg hlast] at e; cases e
        closing := by split <;> exact .of_not_closing nofun nofun
        -- a reader that is done has a closed output, and the helper does not send to a closed output
        readers := hp.readers.set_buf (hp.readers.not_done h3) _ }
    | hClose k h1 hk =>
      exact { hp with
        sendLt := fun v' k' e => by split at e <;> cases e
        closing := hp.closing.next closingPC_H h1
        readers := hp.readers.set_closed k }
    | read k v b hk h1 h2 => exact { hp with readers := hp.readers.set_buf h2 b }
    | readClosed k hk h1 h2 h3 => exact { hp with readers := hp.readers.set_done h1 h2 }

/-- the final state: the helper is at `group.Done()`, every output is closed and drained and every
    reader has seen ok=false -/
def ForkFinal (n : Nat) (s : FS α) : Prop :=
  s.h = .done ∧ ∀ k, k < n → s.oclosed k = true ∧ s.buf k = [] ∧ s.readerDone k = true

/-- **nobody waits for ever**: a reachable state is final or some step is enabled (a full queue has a reader,
    an empty one a writer or a close) -/
theorem C06_fork_no_deadlock (input : List α) (n cap : Nat) (hn : 1 ≤ n) (hcap : 1 ≤ cap) (s : FS α)
    (hr : Reach n cap (initFS input) s) : ForkFinal n s ∨ ∃ t, Step n cap s t := by
  have inv := C06_fork_prefix_inv input n cap s hr
  have hp := fork_prog_reach input n cap hn s hr
  have reader : ∀ k, k < n → s.readerDone k = false → (s.buf k = [] → s.oclosed k = true) → ∃ t, Step n cap s t := by
    intro k hk hd hb
    cases hbk : s.buf k with
    | nil => exact ⟨_, Step.readClosed s k hk hbk (hb hbk) hd⟩
    | cons v b => exact ⟨_, Step.read s k v b hk hbk hd⟩
  cases hh : s.h with
  | recv =>
    right
    cases hq : s.inq with
    | cons v q => exact ⟨_, Step.hRecv s v q hh hq⟩
    | nil =>
      cases hc : s.inClosed with
      | true => exact ⟨_, Step.hRecvClosed s hh hq hc⟩
      | false =>
        cases hrest : s.rest with
        | nil => exact ⟨_, Step.feedClose s hrest hc⟩
        | cons v r => exact ⟨_, Step.feed s v r hrest (by rw [hq]; exact hcap) hc⟩
  | send v k =>
    right
    have hk := hp.sendLt v k hh
    have hnc : s.oclosed k = false :=
      open_of_not_closing inv.noLate hh nofun nofun _
    by_cases hfull : (s.buf k).length < cap
    · exact ⟨_, Step.hSend s v k hh hk hfull hnc⟩
    · exact reader k hk (hp.readers.not_done hnc) fun e => absurd (by rw [e]; exact hcap) hfull
  | close k => exact Or.inr ⟨_, Step.hClose s k hh (hp.closing.lt k hh)⟩
  | done =>
    rcases forall_lt_or_exists n (fun k => s.buf k = [] ∧ s.readerDone k = true) with hall | ⟨k, hk, hnk⟩
    · exact Or.inl ⟨hh, fun k hk => ⟨hp.closing.closed k hk (.inr hh), (hall k hk).1, (hall k hk).2⟩⟩
    · right
      cases hd : s.readerDone k with
      | false => exact reader k hk hd fun _ => hp.closing.closed k hk (.inr hh)
      | true => exact absurd ⟨hp.readers.empty k hd, hd⟩ hnk

/-- the work of a whole Fork run: 2n+2 steps per value (feed, receive, n sends, n reads) plus 2n+2
    for closing down (close the input, notice it, n closes, n final reads) -/
theorem forkPot_init (input : List α) (n : Nat) : forkPot n (initFS input) = (2 * n + 2) * input.length + (2 * n + 2) := by
  simp only [forkPot, feedPot, bufPot, rdPot, initFS, hpot, List.length_nil, todo, Nat.add_mul]
  rw [sumTo_const, sumTo_const]; omega

/-- **Fork terminates** — for every input, fan-out ≥ 1, capacity ≥ 1 and every interleaving:
    (1) no run from the initial state is longer than (2n+2)·(|input|+1) steps;
    (2) a run that cannot be extended has reached the final state – the helper goroutine is at
        `group.Done()` (the caller's wait group returns), every output queue is closed and drained,
        every reader has seen ok=false – and every reader has read exactly the input, in order. -/
theorem C06_fork_terminates (input : List α) (n cap : Nat) (hn : 1 ≤ n) (hcap : 1 ≤ cap) (m : Nat) (u : FS α)
    (hrun : Run n cap (initFS input) m u) :
    m ≤ (2 * n + 2) * input.length + (2 * n + 2) ∧
    ((¬ ∃ t, Step n cap u t) → ForkFinal n u ∧ ∀ k, k < n → u.reads k = input) := by
  obtain ⟨hb, hr, hfin⟩ := Steps.terminates (I := Reach n cap (initFS input)) (F := ForkFinal n) (μ := forkPot n)
    (fun _ _ => Reach.step) (fun _ _ _ => C06_fork_step_decreases n cap _ _) (C06_fork_no_deadlock input n cap hn hcap) hrun.steps .init
  rw [forkPot_init] at hb
  refine ⟨hb, fun hstuck => ?_⟩
  have hf := hfin hstuck
  have ⟨helper_done, outs⟩ := hf
  exact ⟨hf, C06_fork_final input n cap u hr helper_done fun k hk => (outs k hk).2.1⟩

/-- the premises are satisfiable and the bound is tight enough to be meaningful: the empty stream
    with one output takes exactly four steps (close the input, notice it, close the output, final read) -/
example : ∃ u : FS Nat, Run 1 1 (initFS []) 4 u ∧ ForkFinal 1 u := by
  refine ⟨_, Run.succ (Step.feedClose _ rfl rfl) (Run.succ (Step.hRecvClosed _ rfl rfl rfl)
    (Run.succ (Step.hClose _ 0 rfl (by decide)) (Run.succ (Step.readClosed _ 0 (by decide) rfl (by simp [upd]) rfl) (Run.zero _)))), ?_⟩
  refine ⟨by simp, fun k hk => ?_⟩
  have : k = 0 := Nat.lt_one_iff.mp hk
  subst this
  simp [upd, initFS]

end CM
