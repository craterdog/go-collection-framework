/- merge sort: permutation for every ranker, ascending for a total preorder;
   reverse = List.reverse; shuffle is a permutation -/
import CollectionModel.Model.Sorter
import CollectionModel.Spec.SeqSpec
namespace CM

variable {α : Type}

/-- a pure ranker, as the stateful-ranker interface of the translation sees it -/
def pureRanker (rank : α → α → Rank) : Unit → α → α → Rank × Unit := fun _ a b => (rank a b, ())

namespace Sorter

theorem take_two_mul (xs : List α) (w : Nat) : xs.take (2 * w) = xs.take w ++ (xs.drop w).take w := by
  rw [Nat.two_mul, List.take_add]

/-! The equations of the stateful sorter with its results as projections: the proofs below and `Tie/LoopsSorter` go through
  these, not through `fun_induction`. -/

theorem mergeM_nil_left {σ : Type} (rank : σ → α → α → Rank × σ) (st : σ) (r : List α) : mergeM rank st [] r = (r, st) := by
  cases r <;> simp [mergeM]

theorem mergeM_nil_right {σ : Type} (rank : σ → α → α → Rank × σ) (st : σ) (l : List α) : mergeM rank st l [] = (l, st) := by
  cases l <;> simp [mergeM]

theorem mergeM_cons {σ : Type} (rank : σ → α → α → Rank × σ) (st : σ) (a b : α) (l r : List α) :
    mergeM rank st (a :: l) (b :: r)
      = if (rank st a b).1 = .lt then (a :: (mergeM rank (rank st a b).2 l (b :: r)).1, (mergeM rank (rank st a b).2 l (b :: r)).2)
        else (b :: (mergeM rank (rank st a b).2 (a :: l) r).1, (mergeM rank (rank st a b).2 (a :: l) r).2) := by
  simp only [mergeM]

theorem mergePassM_nil {σ : Type} (rank : σ → α → α → Rank × σ) (w f : Nat) (st : σ) : mergePassM rank w f st [] = ([], st) := by
  cases f <;> simp [mergePassM]

theorem mergePassM_step {σ : Type} (rank : σ → α → α → Rank × σ) (w f : Nat) (st : σ) (xs : List α) (h : xs ≠ []) :
    mergePassM rank w (f + 1) st xs
      = ((mergeM rank st (xs.take w) ((xs.drop w).take w)).1
            ++ (mergePassM rank w f (mergeM rank st (xs.take w) ((xs.drop w).take w)).2 (xs.drop (2 * w))).1,
         (mergePassM rank w f (mergeM rank st (xs.take w) ((xs.drop w).take w)).2 (xs.drop (2 * w))).2) := by
  cases xs with
  | nil => exact absurd rfl h
  | cons x t => simp only [mergePassM]

theorem sortLoopM_step {σ : Type} (rank : σ → α → α → Rank × σ) (f : Nat) {w : Nat} (st : σ) {xs : List α} (h : w < xs.length) :
    sortLoopM rank (f + 1) w st xs
      = sortLoopM rank f (2 * w) (mergePassM rank w xs.length st xs).2 (mergePassM rank w xs.length st xs).1 := by
  rw [sortLoopM, if_pos h]

theorem sortLoopM_of_le {σ : Type} (rank : σ → α → α → Rank × σ) (f : Nat) {w : Nat} (st : σ) {xs : List α} (h : xs.length ≤ w) :
    sortLoopM rank f w st xs = (xs, st) := by
  cases f with
  | zero => rfl
  | succ f => rw [sortLoopM, if_neg (Nat.not_lt.mpr h)]

theorem mergeM_perm {σ : Type} (rank : σ → α → α → Rank × σ) (st : σ) (l r : List α) :
    (mergeM rank st l r).1.Perm (l ++ r) := by
  induction l generalizing st r with
  | nil => rw [mergeM_nil_left]; exact .refl r
  | cons a l ihl =>
    induction r generalizing st with
    | nil => rw [mergeM_nil_right]; exact .of_eq (List.append_nil _).symm
    | cons b r ihr =>
      rw [mergeM_cons]
      split
      · exact (ihl _ (b :: r)).cons a
      · exact ((ihr _).cons b).trans List.perm_middle.symm

theorem mergePassM_perm {σ : Type} (rank : σ → α → α → Rank × σ) (w f : Nat) (st : σ) (xs : List α) :
    (mergePassM rank w f st xs).1.Perm xs := by
  induction f generalizing st xs with
  | zero => exact .refl xs
  | succ f ih =>
    by_cases h : xs = []
    · rw [h, mergePassM_nil]
    · rw [mergePassM_step rank w f st xs h]
      exact ((mergeM_perm rank st _ _).append (ih _ _)).trans (.of_eq (by rw [← take_two_mul, List.take_append_drop]))

theorem sortLoopM_perm {σ : Type} (rank : σ → α → α → Rank × σ) (f w : Nat) (st : σ) (xs : List α) :
    (sortLoopM rank f w st xs).1.Perm xs := by
  induction f generalizing w st xs with
  | zero => exact .refl xs
  | succ f ih =>
    by_cases h : w < xs.length
    · rw [sortLoopM_step rank f st h]; exact (ih _ _ _).trans (mergePassM_perm rank w _ st xs)
    · rw [sortLoopM_of_le rank _ st (Nat.le_of_not_lt h)]

theorem mergeM_length {σ : Type} (rank : σ → α → α → Rank × σ) (st : σ) (l r : List α) :
    (mergeM rank st l r).1.length = l.length + r.length :=
  (mergeM_perm rank st l r).length_eq.trans List.length_append

theorem mergePassM_length {σ : Type} (rank : σ → α → α → Rank × σ) (w f : Nat) (st : σ) (xs : List α) :
    (mergePassM rank w f st xs).1.length = xs.length :=
  (mergePassM_perm rank w f st xs).length_eq

/-! The pure sorter is the stateful one at `σ = Unit`. The cases of `fun_induction` over the pure functions follow their
  equations in Model/Sorter.lean: `merge`: left empty, right empty, left head first, right head first; `mergePass`: fuel out,
  input empty, a round; `sortLoop`: fuel out, a pass, width ≥ length. -/

theorem mergeM_pure (rank : α → α → Rank) (l r : List α) :
    mergeM (pureRanker rank) () l r = (merge rank l r, ()) := by
  fun_induction merge rank l r with
  | case1 r => cases r <;> simp [mergeM]
  | case2 l h => cases l <;> simp [mergeM] at h ⊢
  | case3 a l b r h ih => simp only [mergeM, pureRanker, h, if_true, ih]
  | case4 a l b r h ih => simp only [mergeM, pureRanker, h, if_false, ih]

theorem mergePassM_pure (rank : α → α → Rank) (w f : Nat) (xs : List α) :
    mergePassM (pureRanker rank) w f () xs = (mergePass rank w f xs, ()) := by
  fun_induction mergePass rank w f xs with
  | case1 xs => rfl
  | case2 f => rfl
  | case3 f xs hne ih =>
    cases xs with
    | nil => exact absurd rfl hne
    | cons x t => simp only [mergePassM, mergeM_pure, ih]

theorem sortLoopM_pure (rank : α → α → Rank) (f w : Nat) (xs : List α) :
    sortLoopM (pureRanker rank) f w () xs = (sortLoop rank f w xs, ()) := by
  fun_induction sortLoop rank f w xs with
  | case1 w xs => rfl
  | case2 f w xs hlt ih => simp only [sortLoopM, hlt, if_true, mergePassM_pure, ih]
  | case3 f w xs h => simp only [sortLoopM, h, if_false]

theorem merge_perm (rank : α → α → Rank) (l r : List α) : (merge rank l r).Perm (l ++ r) :=
  by simpa only [mergeM_pure] using mergeM_perm (pureRanker rank) () l r

theorem mergePass_perm (rank : α → α → Rank) (w f : Nat) (xs : List α) : (mergePass rank w f xs).Perm xs :=
  by simpa only [mergePassM_pure] using mergePassM_perm (pureRanker rank) w f () xs

theorem sortValues_perm (rank : α → α → Rank) (xs : List α) : (sortValues rank xs).Perm xs :=
  by simpa only [sortValues, sortLoopM_pure] using sortLoopM_perm (pureRanker rank) xs.length 1 () xs

theorem merge_length (rank : α → α → Rank) (l r : List α) :
    (merge rank l r).length = l.length + r.length :=
  (merge_perm rank l r).length_eq.trans List.length_append

theorem mergePass_length (rank : α → α → Rank) (w : Nat) (f : Nat) (xs : List α) :
    (mergePass rank w f xs).length = xs.length := (mergePass_perm rank w f xs).length_eq

theorem mergePass_nil (rank : α → α → Rank) (w f : Nat) : mergePass rank w f [] = [] := by
  cases f <;> rfl

/-- the `size > 1` guard of the collections' Sort methods only skips inputs the sorter leaves alone -/
theorem arraySort_eq (rank : α → α → Rank) (l : List α) : arraySort rank l = sortValues rank l := by
  by_cases h : l.length > 1
  · rw [arraySort, if_pos h]
  · have short := sortLoopM_of_le (pureRanker rank) l.length () (Nat.le_of_not_lt h)
    rw [sortLoopM_pure] at short
    rw [arraySort, if_neg h, sortValues]; exact (congrArg Prod.fst short).symm

/-- no earlier value ranks Greater than a later one: all pairs, not only adjacent ones, so that `merge_asc` needs transitivity -/
def Asc (rank : α → α → Rank) (l : List α) : Prop := l.Pairwise (fun a b => rank a b ≠ .gt)

/-- the executable test of the specification (adjacent pairs) accepts what is ascending (all pairs) -/
theorem ascending_of_asc (rank : α → α → Rank) : ∀ l : List α, Asc rank l → SeqSpec.ascending rank l = true
  | [], _ => rfl
  | [_], _ => rfl
  | _ :: b :: rest, h =>
    have h' := List.pairwise_cons.mp h
    Bool.and_eq_true_iff.mpr
      ⟨bne_iff_ne.mpr (h'.1 b List.mem_cons_self), ascending_of_asc rank (b :: rest) h'.2⟩

theorem merge_asc (rank : α → α → Rank) (h : TotalPreorder rank) (l r : List α)
    (hl : Asc rank l) (hr : Asc rank r) : Asc rank (merge rank l r) := by
  fun_induction merge rank l r with
  | case1 r => exact hr
  | case2 l _ => exact hl
  | case3 a l b r hab ih =>
    have hl' := List.pairwise_cons.mp hl
    refine List.pairwise_cons.mpr ⟨fun x hx => ?_, ih hl'.2 hr⟩
    rcases List.mem_append.mp ((merge_perm rank l (b :: r)).mem_iff.mp hx) with hx | hx
    · exact hl'.1 x hx
    · have hab' : rank a b ≠ .gt := by rw [hab]; decide
      rcases List.mem_cons.mp hx with rfl | hx
      · exact hab'
      · exact h.trans a b x hab' ((List.pairwise_cons.mp hr).1 x hx)
  | case4 a l b r hab ih =>
    have hr' := List.pairwise_cons.mp hr
    refine List.pairwise_cons.mpr ⟨fun x hx => ?_, ih hl hr'.2⟩
    rcases List.mem_append.mp ((merge_perm rank (a :: l) r).mem_iff.mp hx) with hx | hx
    · have hba : rank b a ≠ .gt := fun hg => hab ((h.gt_iff_lt a b).mp hg)
      rcases List.mem_cons.mp hx with rfl | hx
      · exact hba
      · exact h.trans b a x hba ((List.pairwise_cons.mp hl).1 x hx)
    · exact hr'.1 x hx

/-- all aligned chunks of width w are ascending -/
def ChunkAsc (rank : α → α → Rank) (w : Nat) (xs : List α) : Prop :=
  ∀ k, Asc rank ((xs.drop (k * w)).take w)

theorem chunkAsc_nil (rank : α → α → Rank) (w : Nat) : ChunkAsc rank w [] := fun k => by
  rw [List.drop_nil, List.take_nil]; exact List.Pairwise.nil

theorem chunkAsc_one (rank : α → α → Rank) (xs : List α) : ChunkAsc rank 1 xs := fun k => by
  cases xs.drop (k * 1) with
  | nil => exact List.Pairwise.nil
  | cons a t => exact List.pairwise_singleton _ a

theorem asc_of_chunk (rank : α → α → Rank) (w : Nat) (xs : List α) (hw : xs.length ≤ w)
    (h : ChunkAsc rank w xs) : Asc rank xs := by
  have := h 0
  simpa [List.take_of_length_le hw] using this

theorem chunkAsc_drop {rank : α → α → Rank} {w : Nat} {xs : List α} (h : ChunkAsc rank w xs) (j : Nat) :
    ChunkAsc rank w (xs.drop (j * w)) := fun k => by
  rw [List.drop_drop, ← Nat.add_mul]; exact h (j + k)

/-- an ascending full chunk in front of a chunked list; a short one only in front of nothing -/
theorem chunkAsc_append {rank : α → α → Rank} {w : Nat} {a b : List α} (ha : Asc rank a)
    (hb : ChunkAsc rank w b) (hab : a.length = w ∨ a.length ≤ w ∧ b = []) : ChunkAsc rank w (a ++ b)
  | 0 => by
    rw [Nat.zero_mul, List.drop_zero]
    rcases hab with h | ⟨h, rfl⟩
    · rwa [List.take_left' h]
    · rwa [List.append_nil, List.take_of_length_le h]
  | k+1 => by
    rcases hab with h | ⟨h, rfl⟩
    · rw [Nat.add_mul, Nat.one_mul, Nat.add_comm, ← List.drop_drop, List.drop_left' h]; exact hb k
    · rw [List.append_nil, List.drop_of_length_le (Nat.le_trans h (Nat.le_mul_of_pos_left w k.succ_pos)),
        List.take_nil]
      exact List.Pairwise.nil

theorem mergePass_chunkAsc (rank : α → α → Rank) (hr : TotalPreorder rank) (w : Nat) (hw : 0 < w)
    (f : Nat) (xs : List α) (hf : xs.length ≤ f) (h : ChunkAsc rank w xs) :
    ChunkAsc rank (2*w) (mergePass rank w f xs) := by
  fun_induction mergePass rank w f xs with
  | case1 xs => rw [List.eq_nil_of_length_eq_zero (Nat.le_zero.mp hf)]; exact chunkAsc_nil rank _
  | case2 f => exact chunkAsc_nil rank _
  | case3 f xs hne ih =>
    have h0 := h 0; have h1 := h 1
    rw [Nat.zero_mul, List.drop_zero] at h0; rw [Nat.one_mul] at h1
    -- a round shortens the rest by `2 * w ≥ 2`: the fuel suffices
    have hf' : (xs.drop (2 * w)).length ≤ f := by rw [List.length_drop]; omega
    refine chunkAsc_append (merge_asc rank hr _ _ h0 h1) (ih hf' (chunkAsc_drop h 2)) ?_
    have hlen : (merge rank (xs.take w) ((xs.drop w).take w)).length = (xs.take (2*w)).length := by
      rw [merge_length, ← List.length_append, ← take_two_mul]
    by_cases hc : 2*w ≤ xs.length
    · exact .inl (hlen.trans (List.length_take_of_le hc))
    · exact .inr ⟨hlen ▸ List.length_take_le _ _,
        by rw [List.drop_of_length_le (Nat.le_of_not_le hc), mergePass_nil]⟩

/-- doubling the width uses up one unit of the loop's fuel -/
theorem le_double {n w f : Nat} (h : n ≤ w * 2^(f+1)) : n ≤ 2*w * 2^f := by
  rwa [Nat.pow_succ, Nat.mul_comm _ 2, ← Nat.mul_assoc, Nat.mul_comm w 2] at h

theorem sortLoop_asc (rank : α → α → Rank) (hr : TotalPreorder rank) (f w : Nat) (xs : List α)
    (hw : 0 < w) (hlen : xs.length ≤ w * 2^f) (h : ChunkAsc rank w xs) :
    Asc rank (sortLoop rank f w xs) := by
  fun_induction sortLoop rank f w xs with
  | case1 w xs => exact asc_of_chunk rank w xs (by simpa using hlen) h
  | case2 f w xs _ ih =>
    exact ih (Nat.mul_pos (by decide) hw) (by rw [mergePass_length]; exact le_double hlen)
      (mergePass_chunkAsc rank hr w hw _ xs (Nat.le_refl _) h)
  | case3 f w xs hnot => exact asc_of_chunk rank w xs (Nat.le_of_not_lt hnot) h

theorem sortValues_asc (rank : α → α → Rank) (hr : TotalPreorder rank) (xs : List α) :
    Asc rank (sortValues rank xs) := by
  -- the fuel `xs.length`: that many doublings of width 1 reach the length
  have passes : xs.length ≤ 1 * 2 ^ xs.length := by rw [Nat.one_mul]; exact Nat.le_of_lt Nat.lt_two_pow_self
  exact sortLoop_asc rank hr _ 1 xs (by decide) passes (chunkAsc_one rank xs)

theorem getD_append_cons {a b : List α} {x d : α} {i : Nat} (h : i = a.length) : (a ++ x :: b).getD i d = x := by
  simp [h, List.getD_eq_getElem?_getD]

theorem set_append_cons {a b : List α} {x y : α} {i : Nat} (h : i = a.length) :
    (a ++ x :: b).set i y = a ++ y :: b := by
  simp [h, List.set_append_right]

variable [Inhabited α]

theorem swap_length (l : List α) (i j : Nat) : (swap l i j).length = l.length := by
  simp [swap]

theorem swap_append (a mid b : List α) (x y : α) (hab : a.length = b.length) :
    swap (a ++ x :: (mid ++ y :: b)) a.length ((a ++ x :: (mid ++ y :: b)).length - a.length - 1)
      = a ++ y :: (mid ++ x :: b) := by
  -- the mirror position of `x` is that of `y`, as `|a| = |b|`
  have hj : (a ++ x :: (mid ++ y :: b)).length - a.length - 1 = a.length + mid.length + 1 := by
    rw [List.length_append, Nat.add_sub_cancel_left, List.length_cons, Nat.add_sub_cancel, List.length_append,
      List.length_cons, ← hab]
    exact Nat.add_left_comm _ _ _
  have hz : ∀ z, a.length + mid.length + 1 = (a ++ z :: mid).length := fun z => by simp [Nat.add_assoc]
  have e : ∀ x y, a ++ x :: (mid ++ y :: b) = (a ++ x :: mid) ++ y :: b := by simp
  rw [hj, swap, getD_append_cons rfl, set_append_cons rfl, e x y, getD_append_cons (hz x), e y y,
    set_append_cons (hz y), ← e]

/-- `p.length` rounds of the loop, started behind a prefix `a` as long as the suffix `b`,
    exchange `p` with the mirrored block `r.reverse` and reverse both -/
theorem reverseLoop_append (m p r a b : List α) (hp : p.length = r.length) (hab : a.length = b.length) :
    reverseLoop p.length a.length (a ++ (p ++ (m ++ r.reverse)) ++ b) = a ++ (r ++ (m ++ p.reverse)) ++ b := by
  induction p generalizing r a b with
  | nil => cases r with
    | nil => rfl
    | cons => nomatch hp
  | cons x p ih => cases r with
    | nil => nomatch hp
    | cons y r =>
      have ih := ih r (a ++ [y]) (x :: b) (Nat.succ.inj hp) (by rw [List.length_append, hab]; rfl)
      have e : a ++ (x :: p ++ (m ++ (y :: r).reverse)) ++ b
          = a ++ x :: ((p ++ (m ++ r.reverse)) ++ y :: b) := by
        simp only [List.reverse_cons, List.append_assoc, List.cons_append, List.nil_append]
      rw [List.length_cons, reverseLoop, e, swap_append _ _ _ _ _ hab]
      simpa only [List.length_append, List.length_singleton, List.reverse_cons, List.append_assoc,
        List.cons_append, List.nil_append] using ih

theorem reverseLoop_eq_reverse (l : List α) (h d : Nat) (hl : l.length = 2 * h + d) (hd : d ≤ 1) :
    reverseLoop h 0 l = l.reverse := by
  obtain ⟨p, m, r, rfl, rfl, hr, hm⟩ :
      ∃ p m r, l = p ++ (m ++ r.reverse) ∧ p.length = h ∧ r.length = h ∧ m.length ≤ 1 :=
    ⟨l.take h, (l.drop h).take d, ((l.drop h).drop d).reverse,
      by rw [List.reverse_reverse, List.take_append_drop, List.take_append_drop],
      List.length_take_of_le (by omega),
      by rw [List.length_reverse, List.length_drop, List.length_drop, hl, Nat.sub_sub, Nat.two_mul, Nat.add_assoc,
        Nat.add_sub_cancel],
      Nat.le_trans (List.length_take_le _ _) hd⟩
  have hmid : m.reverse = m := by
    match m, hm with
    | [], _ => rfl
    | [_], _ => rfl
  have := reverseLoop_append m p r [] [] hr.symm rfl
  simp only [List.nil_append, List.append_nil, List.length_nil] at this
  rw [this, List.reverse_append, List.reverse_append, List.reverse_reverse, hmid, List.append_assoc]

theorem reverseValues_eq (l : List α) : reverseValues l = l.reverse :=
  reverseLoop_eq_reverse l _ (l.length % 2) (Nat.div_add_mod l.length 2).symm (Nat.le_of_lt_succ (Nat.mod_lt _ (by decide)))

theorem swap_perm (l : List α) (i j : Nat) (hi : i < l.length) (hj : j < l.length) :
    (swap l i j).Perm l := by
  unfold swap
  have e1 : l.getD j default = l[j] := by simp [List.getD_eq_getElem?_getD, hj]
  have e2 : l.getD i default = l[i] := by simp [List.getD_eq_getElem?_getD, hi]
  rw [e1, e2]
  exact List.set_set_perm hi hj

/-- `randomizeIndex` returns values in `[0, size)` -/
theorem shuffleLoop_perm (rs : List Nat) (i : Nat) (l : List α)
    (h1 : i + rs.length ≤ l.length) (h2 : ∀ r ∈ rs, r < l.length) : (shuffleLoop i rs l).Perm l := by
  fun_induction shuffleLoop i rs l with
  | case1 i l => exact .refl l
  | case2 i r rs l ih =>
    rw [List.length_cons] at h1
    refine (ih ?_ ?_).trans (swap_perm l i r (Nat.lt_of_lt_of_le (Nat.lt_add_of_pos_right (Nat.succ_pos _)) h1)
      (h2 r List.mem_cons_self))
    · rw [swap_length]; exact Nat.le_trans (Nat.le_of_eq (Nat.succ_add_eq_add_succ _ _)) h1
    · intro r' hr'; rw [swap_length]; exact h2 r' (List.mem_cons_of_mem _ hr')

theorem shuffleValues_perm (rs : List Nat) (l : List α) (h1 : rs.length ≤ l.length)
    (h2 : ∀ r ∈ rs, r < l.length) : (shuffleValues rs l).Perm l :=
  shuffleLoop_perm rs 0 l (by simpa using h1) h2

end Sorter
end CM
