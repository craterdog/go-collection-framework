/-
  The round trip (see `RoundTrip.lean`): first what the scanner model makes of the text `t` the
  formatter writes for a value, an association, the items between two brackets or a run of lines: `t ++ R`
  scans to the tokens of a syntax tree of `Sentence.lean` that means what was formatted, then to
  the scan of `R`, for every `R` the formatter can put there (`ValueLex` … `ALinesLex`), with one
  rule per production of the notation (`leaf_lex` … `items_lex_alines`; the empty run of lines is
  read inside `rt_all`) that knows nothing of the formatter.  Then `RtValue f` … `RtALines f`: at fuel `f`, what one function of the formatter model
  writes for canonical input is read that way; they are proved together by induction on `f`
  (`rt_all`) because `fmtValue`, `fmtItems` and `fmtLines` call one another with one unit less.
-/
import CollectionModel.Lemmas.RoundTrip
namespace CM
namespace Cdcn

section
variable (env : Env)

def ValueLex (t : Src) (v : Val) : Prop :=
  Starts t ∧ ∀ R lc, Term R → ∃ (S : SValue) (lc' : Nat × Nat),
    scanFrom (t ++ R) lc = S.toks ++ scanFrom R lc' ∧ S.Good ∧ S.mean env = some v ∧ (isCollVal v = true → S.isColl = true)

def AssocLex (t : Src) (k x : Val) : Prop :=
  Starts t ∧ ∀ R lc, Term R → ∃ (A : SAssoc) (lc' : Nat × Nat),
    scanFrom (t ++ R) lc = A.toks ++ scanFrom R lc' ∧ A.Good ∧ A.mean env = some (k, x)

/-- `]` is in the statement because the items depend on it: it ends the last inline value, and the
    blank of `[ ]` and the last line's indentation are skipped up to it -/
def ItemsLex (t : Src) (xs : List Val) : Prop :=
  ∀ R lc, ∃ (I : SItems) (lc' : Nat × Nat),
    scanFrom (t ++ ch ']' :: R) lc = I.toks ++ scanFrom (ch ']' :: R) lc' ∧ I.Good ∧ I.mean env = some xs

/-- `t` is empty or begins with a newline: the `Term` that ends the line before it; it is read only in
    front of another newline, the next line's or the one `fmtItems` writes before `]` -/
def LinesLex (t : Src) (xs : List Val) : Prop :=
  (t = [] ∨ ∃ r, t = 10 :: r) ∧ ∀ R lc, (∃ r, R = 10 :: r) → ∃ (V : SVals) (lc' : Nat × Nat),
    scanFrom (t ++ R) lc = V.toks ++ scanFrom R lc' ∧ V.Good isEol ∧ V.mean env = some xs

def ALinesLex (t : Src) (xs : List Val) : Prop :=
  (t = [] ∨ ∃ r, t = 10 :: r) ∧ ∀ R lc, (∃ r, R = 10 :: r) → ∃ (V : SAssocs) (lc' : Nat × Nat),
    scanFrom (t ++ R) lc = V.toks ++ scanFrom R lc' ∧ V.Good isEol ∧ V.mean env = some (pairsOf xs)

variable {env}

theorem leaf_lex {leafText : Val → Option (List Nat)} (hl : LeafLex leafText env.conv) (leaf : Val) (t : List Nat)
    (ht : leafText leaf = some t) (hc : isCollVal leaf = false) : ValueLex env t leaf := by
  refine ⟨hl.starts leaf t ht, fun R lc hR => ?_⟩
  obtain ⟨tok, lc', hk, hconv, hs⟩ := scan_leaf hl leaf t ht R lc hR
  exact ⟨.lit tok, lc', by simp [SValue.toks, hs], hk, hconv, by simp [hc]⟩

theorem coll_lex (v : Val) (ti : Src) (items : List Val) (hctx : ctxName v ≠ []) (hi : ItemsLex env ti items)
    (hcoll : collOf env.mkSet (ctxName v) items = some v) :
    ValueLex env (ch '[' :: ti ++ ch ']' :: ch '(' :: ctxName v ++ [ch ')']) v := by
  refine ⟨⟨_, _, rfl, by decide⟩, fun R lc _ => ?_⟩
  obtain ⟨lb, lc1, hlb, e1⟩ := scan_lbracket (ti ++ ch ']' :: ch '(' :: (ctxName v ++ ch ')' :: R)) lc
  obtain ⟨I, lc2, e2, hIg, hIm⟩ := hi (ch '(' :: (ctxName v ++ ch ')' :: R)) lc1
  obtain ⟨rb, lp, ty, rp, lc3, hrb, hlp, hty, htyv, hrp, e3⟩ := scan_context v hctx R lc2
  refine ⟨.coll lb I rb lp ty rp, lc3, ?_, ⟨hlb, hIg, hrb, hlp, hty, hrp⟩, ?_, fun _ => rfl⟩
  · have : (ch '[' :: ti ++ ch ']' :: ch '(' :: ctxName v ++ [ch ')']) ++ R
        = ch '[' :: (ti ++ ch ']' :: ch '(' :: (ctxName v ++ ch ')' :: R)) := by simp
    rw [this, e1, e2, e3]
    simp [SValue.toks]
  · simp only [SValue.mean, hIm, htyv, hcoll]

theorem assoc_lex {leafText : Val → Option (List Nat)} (hl : LeafLex leafText env.conv) {k x : Val} {kt tx : Src}
    (hk : leafText k = some kt) (hx : ValueLex env tx x) : AssocLex env (kt ++ str ": " ++ tx) k x := by
  obtain ⟨hsx, hlexx⟩ := hx
  obtain ⟨c, r, hkt, hc32⟩ := hl.starts k kt hk
  refine ⟨⟨c, r ++ str ": " ++ tx, by rw [hkt]; simp, hc32⟩, fun R lc hR => ?_⟩
  have e0 : kt ++ str ": " ++ tx ++ R = kt ++ (ch ':' :: (List.replicate 1 32 ++ (tx ++ R))) := by
    rw [str_colon_space]; simp
  obtain ⟨ktok, lc1, hkk, hkc, e1⟩ := scan_leaf hl k kt hk (ch ':' :: (List.replicate 1 32 ++ (tx ++ R))) lc (term_colon _)
  obtain ⟨colon, lc2, hcol, e2⟩ := scan_colon (List.replicate 1 32 ++ (tx ++ R)) lc1
  obtain ⟨lc3, e3⟩ := scan_spaces 1 (tx ++ R) lc2 (hsx.nosp R)
  obtain ⟨S, lc4, e4, hSg, hSm, _⟩ := hlexx R lc3 hR
  refine ⟨.mk ktok colon S, lc4, ?_, ⟨hkk, hcol, hSg⟩, ?_⟩
  · rw [e0, e1, e2, e3, e4]; simp only [SAssoc.toks, List.cons_append]
  · simp only [SAssoc.mean, hkc, hSm]

/-- the newline with its indentation is one EOL token; `rest ++ R` begins with a newline and so ends the element `tx` -/
theorem scan_line (d : Nat) {tx rest R : Src} (hs : Starts tx) (hhead : rest = [] ∨ ∃ r, rest = 10 :: r)
    (hR : ∃ r, R = 10 :: r) (lc : Nat × Nat) : ∃ e lc1, isEol e = true ∧ Term (rest ++ R) ∧
      scanFrom (newline d ++ tx ++ rest ++ R) lc = e :: scanFrom (tx ++ (rest ++ R)) lc1 := by
  obtain ⟨e, lc1, he, e1⟩ := scan_newline d (tx ++ (rest ++ R)) lc (hs.nosp _)
  have hterm : Term (rest ++ R) := by
    obtain ⟨r0, rfl⟩ := hR
    rcases hhead with rfl | ⟨r, rfl⟩ <;> exact term_eol _
  exact ⟨e, lc1, he, hterm, by rw [← e1]; simp⟩

theorem lines_lex_cons (d : Nat) {tx rest : Src} {x : Val} {xs : List Val} (hx : ValueLex env tx x)
    (hr : LinesLex env rest xs) : LinesLex env (newline d ++ tx ++ rest) (x :: xs) := by
  refine ⟨.inr ⟨List.replicate (4 * d) 32 ++ (tx ++ rest), by simp [newline]⟩, fun R lc hR => ?_⟩
  obtain ⟨e, lc1, he, hterm, e1⟩ := scan_line d hx.1 hr.1 hR lc
  obtain ⟨S, lc2, e2, hSg, hSm, _⟩ := hx.2 (rest ++ R) lc1 hterm
  obtain ⟨V, lc3, e3, hVg, hVm⟩ := hr.2 R lc2 hR
  refine ⟨.cons e S V, lc3, ?_, ⟨he, hSg, hVg⟩, ?_⟩
  · rw [e1, e2, e3]; simp only [SVals.toks, List.cons_append, List.append_assoc]
  · simp only [SVals.mean, hSm, hVm]

theorem alines_lex_cons (d : Nat) {tx rest : Src} {k y : Val} {xs : List Val} (hx : AssocLex env tx k y)
    (hr : ALinesLex env rest xs) : ALinesLex env (newline d ++ tx ++ rest) (.assoc k y :: xs) := by
  refine ⟨.inr ⟨List.replicate (4 * d) 32 ++ (tx ++ rest), by simp [newline]⟩, fun R lc hR => ?_⟩
  obtain ⟨e, lc1, he, hterm, e1⟩ := scan_line d hx.1 hr.1 hR lc
  obtain ⟨A, lc2, e2, hAg, hAm⟩ := hx.2 (rest ++ R) lc1 hterm
  obtain ⟨V, lc3, e3, hVg, hVm⟩ := hr.2 R lc2 hR
  refine ⟨.cons e A V, lc3, ?_, ⟨he, hAg, hVg⟩, ?_⟩
  · rw [e1, e2, e3]; simp only [SAssocs.toks, List.cons_append, List.append_assoc]
  · simp only [SAssocs.mean, hAm, hVm, pairsOf_assoc_cons]

/-- `[ ]` -/
theorem items_lex_blank : ItemsLex env (str " ") [] := by
  intro R lc
  obtain ⟨lc1, e1⟩ := scan_spaces 1 (ch ']' :: R) lc (nosp_rbracket R)
  exact ⟨.noValues, lc1, by rw [str_space]; simpa [SItems.toks] using e1, trivial, rfl⟩

/-- `[:]` -/
theorem items_lex_colon : ItemsLex env (str ":") [] := by
  intro R lc
  obtain ⟨colon, lc1, hcol, e1⟩ := scan_colon (ch ']' :: R) lc
  exact ⟨.noAssocs colon, lc1, by rw [str_colon]; simpa [SItems.toks] using e1, hcol, rfl⟩

theorem items_lex_value {t : Src} {x : Val} (h : ValueLex env t x) : ItemsLex env t [x] := by
  intro R lc
  obtain ⟨S, lc1, e1, hSg, hSm, _⟩ := h.2 (ch ']' :: R) lc (term_rbracket R)
  exact ⟨.inlineValues S .nil, lc1, by simp [SItems.toks, SVals.toks, e1], ⟨hSg, trivial⟩,
    by simp only [SItems.mean, hSm, SVals.mean]⟩

theorem items_lex_assoc {t : Src} {k y : Val} (h : AssocLex env t k y) (hcat : Val.catalogOf [(k, y)] = [.assoc k y]) :
    ItemsLex env t [.assoc k y] := by
  intro R lc
  obtain ⟨A, lc1, e1, hAg, hAm⟩ := h.2 (ch ']' :: R) lc (term_rbracket R)
  exact ⟨.inlineAssocs A .nil, lc1, by simp [SItems.toks, SAssocs.toks, e1], ⟨hAg, trivial⟩,
    by simp only [SItems.mean, hAm, SAssocs.mean, hcat]⟩

/-- lines between brackets: the newline that `fmtItems` writes before `]` ends the last line and is the closing EOL -/
theorem items_lex_lines (d : Nat) {tl : Src} {xs : List Val} (h : LinesLex env tl xs) (hne : xs ≠ []) :
    ItemsLex env (tl ++ newline d) xs := by
  intro R lc
  obtain ⟨V, lc1, e1, hVg, hVm⟩ := h.2 (newline d ++ ch ']' :: R) lc ⟨_, rfl⟩
  obtain ⟨last, lc2, hlast, e2⟩ := scan_newline d (ch ']' :: R) lc1 (nosp_rbracket R)
  cases V with
  | nil => exact absurd (Option.some.inj hVm).symm hne
  | cons e S more =>
    refine ⟨.multiValues e S more last, lc2, ?_, ⟨hVg.1, hVg.2.1, hVg.2.2, hlast⟩, ?_⟩
    · rw [List.append_assoc, e1, e2]; simp [SItems.toks, SVals.toks]
    · simpa only [SItems.mean, SVals.mean] using hVm

theorem items_lex_alines (d : Nat) {tl : Src} {xs : List Val} (h : ALinesLex env tl xs) (hne : xs ≠ [])
    (hall : ∀ x ∈ xs, isAssocVal x = true) (hcat : Val.catalogOf (pairsOf xs) = xs) : ItemsLex env (tl ++ newline d) xs := by
  intro R lc
  obtain ⟨V, lc1, e1, hVg, hVm⟩ := h.2 (newline d ++ ch ']' :: R) lc ⟨_, rfl⟩
  obtain ⟨last, lc2, hlast, e2⟩ := scan_newline d (ch ']' :: R) lc1 (nosp_rbracket R)
  cases V with
  | nil =>
    -- no tokens for associations that are there: the first of them already contributes a pair
    obtain ⟨x, xs', rfl⟩ := List.exists_cons_of_ne_nil hne
    obtain ⟨k, y, rfl⟩ := isAssocVal_eq_true (hall x List.mem_cons_self)
    exact absurd (Option.some.inj hVm) (List.cons_ne_nil (k, y) (pairsOf xs')).symm
  | cons e A more =>
    refine ⟨.multiAssocs e A more last, lc2, ?_, ⟨hVg.1, hVg.2.1, hVg.2.2, hlast⟩, ?_⟩
    · rw [List.append_assoc, e1, e2]; simp [SItems.toks, SAssocs.toks]
    · rw [multiAssocs_mean, hVm, Option.map_some, hcat]

end

variable {env : Env}

theorem collOf_eq (mkSet : List Val → Option Val) (ctx : List Nat) (items : List Val) : collOf mkSet ctx items =
    if ctx = [65, 114, 114, 97, 121] then some (.arr true false items)
    else if ctx = [67, 97, 116, 97, 108, 111, 103] then
      (if items.all isAssocVal then some (.coll .catalog (Val.catalogOf (pairsOf items))) else none)
    else if ctx = [77, 97, 112] then (if items.all isAssocVal then some (.gomap true false (Val.mapOf (pairsOf items))) else none)
    else if ctx = [76, 105, 115, 116] then some (.coll .list items)
    else if ctx = [81, 117, 101, 117, 101] then some (.coll .queue items)
    else if ctx = [83, 101, 116] then mkSet items
    else if ctx = [83, 116, 97, 99, 107] then some (.coll .stack items)
    else none := by
  have e : ∀ s : String, s.toList.map ch = str s := fun _ => rfl
  simp only [collOf, e, ctx_strs]

theorem Canon.items {mkSet : List Val → Option Val} {max d : Nat} {v : Val} (hc : Canon mkSet max d v) (h : ctxName v ≠ []) :
    d < max ∧ CanonList mkSet max (d+1) (itemsOf v) ∧ (keyedOf v = false → ∀ x ∈ itemsOf v, isAssocVal x = false) ∧
    (keyedOf v = true → (∀ x ∈ itemsOf v, isAssocVal x = true) ∧ Val.catalogOf (pairsOf (itemsOf v)) = itemsOf v) ∧
    collOf mkSet (ctxName v) (itemsOf v) = some v := by
  cases v with
  | arr cls n xs =>
    obtain ⟨rfl, rfl, hd, hcl, hno⟩ := hc
    exact ⟨hd, hcl, fun _ => hno, Bool.noConfusion, by simp only [ctxName, ctx_strs, collOf_eq]; rfl⟩
  | coll k xs =>
    obtain ⟨hd, hcl, hok⟩ := hc
    cases k with
    | catalog =>
      exact ⟨hd, hcl, Bool.noConfusion, fun _ => hok, by simp only [ctxName, ctx_strs, collOf_eq, itemsOf, List.all_eq_true.mpr hok.1, hok.2]; rfl⟩
    | set => exact ⟨hd, hcl, fun _ => hok.1, Bool.noConfusion, by simp only [ctxName, ctx_strs, collOf_eq, itemsOf, hok.2]; rfl⟩
    | list | queue | stack => exact ⟨hd, hcl, fun _ => hok, Bool.noConfusion, by simp only [ctxName, ctx_strs, collOf_eq]; rfl⟩
  | gomap cls n es =>
    obtain ⟨rfl, rfl, hd, hcl, hmap⟩ := hc
    have hcat : Val.catalogOf (pairsOf (es.map fun e => Val.assoc e.1 e.2)) = es.map fun e => Val.assoc e.1 e.2 := by
      rw [pairsOf_map_assoc]; show (Val.mapOf es).map _ = _; rw [hmap]
    exact ⟨hd, canonList_entries _ _ _ es hcl, Bool.noConfusion, fun _ => ⟨all_assoc_map es, hcat⟩,
      by simp only [ctxName, ctx_strs, collOf_eq, itemsOf, List.all_eq_true.mpr (all_assoc_map es), pairsOf_map_assoc, hmap]; rfl⟩
  | _ => exact absurd rfl h

variable (env) (leafText : Val → Option (List Nat)) (max : Nat)

def RtValue (f : Nat) : Prop := ∀ v d t, Canon env.mkSet max d v → isAssocVal v = false →
  fmtValue leafText max f d v = .ok t → ValueLex env t v
def RtAssoc (f : Nat) : Prop := ∀ k x d t, Canon env.mkSet max d x → isAssocVal x = false →
  fmtValue leafText max f d (.assoc k x) = .ok t → AssocLex env t k x
/-- `keyed`: the items are the associations of a Catalog or Map, with distinct keys -/
def RtItems (f : Nat) : Prop := ∀ xs d keyed t, d < max → CanonList env.mkSet max (d+1) xs →
  (keyed = false → ∀ x ∈ xs, isAssocVal x = false) →
  (keyed = true → (∀ x ∈ xs, isAssocVal x = true) ∧ Val.catalogOf (pairsOf xs) = xs) →
  fmtItems leafText max f d keyed xs = .ok t → ItemsLex env t xs
def RtLines (f : Nat) : Prop := ∀ xs d t, CanonList env.mkSet max d xs → (∀ x ∈ xs, isAssocVal x = false) →
  fmtLines leafText max f d xs = .ok t → LinesLex env t xs
def RtALines (f : Nat) : Prop := ∀ xs d t, CanonList env.mkSet max d xs → (∀ x ∈ xs, isAssocVal x = true) →
  fmtLines leafText max f d xs = .ok t → ALinesLex env t xs

variable {env leafText max}

theorem rt_all (hl : LeafLex leafText env.conv) : ∀ f, RtValue env leafText max f ∧ RtAssoc env leafText max f ∧
    RtItems env leafText max f ∧ RtLines env leafText max f ∧ RtALines env leafText max f := by
  intro f
  induction f with
  | zero =>
    exact ⟨fun _ _ _ _ _ h => FOut.noConfusion h, fun _ _ _ _ _ _ h => FOut.noConfusion h,
      fun _ _ _ _ _ _ _ _ h => FOut.noConfusion h, fun _ _ _ _ _ h => FOut.noConfusion h, fun _ _ _ _ _ h => FOut.noConfusion h⟩
  | succ f ih =>
    obtain ⟨ihv, iha, ihi, ihl, ihal⟩ := ih
    refine ⟨?value, ?assoc, ?items, ?lines, ?alines⟩
    case value =>
      intro v d t hc hna h
      by_cases hv : ctxName v = []
      · rw [fmtValue_leaf hv hna] at h
        cases ht : leafText v with
        | none => rw [ht] at h; cases h
        | some t' =>
          rw [ht] at h; injection h with h; subst h
          exact leaf_lex hl v _ ht (Bool.eq_false_iff.mpr fun h => isCollVal_iff.mp h hv)
      · rw [fmtValue_coll hv] at h
        obtain ⟨ti, hi, rfl⟩ := bind_ok_ok h
        obtain ⟨hd, hcl, hnk, hk, hcoll⟩ := hc.items hv
        exact coll_lex v ti _ hv (ihi _ d _ ti hd hcl hnk hk hi) hcoll
    case assoc =>
      intro k x d t hc hna h
      rw [fmtValue_assoc] at h
      cases hk : leafText k with
      | none => rw [hk] at h; cases h
      | some kt =>
        rw [hk] at h
        obtain ⟨tx, hx, rfl⟩ := bind_ok_ok h
        exact assoc_lex hl hk (ihv x d tx hc hna hx)
    case items =>
      intro xs d keyed t hd hc hnk hk h
      rw [fmtItems_succ, if_neg (Nat.ne_of_lt hd)] at h
      rcases xs with _ | ⟨x, _ | ⟨y, rest⟩⟩
      · injection h with h; subst h
        cases keyed with
        | false => exact items_lex_blank
        | true => exact items_lex_colon
      · cases keyed with
        | false => exact items_lex_value (ihv x (d+1) t (And.left hc) (hnk rfl x List.mem_cons_self) h)
        | true =>
          obtain ⟨hall, hcat⟩ := hk rfl
          obtain ⟨k, y, rfl⟩ := isAssocVal_eq_true (hall x List.mem_cons_self)
          obtain ⟨hcy, hny⟩ : Canon env.mkSet max (d+1) y ∧ isAssocVal y = false := And.left hc
          exact items_lex_assoc (iha k y (d+1) t hcy hny h) hcat
      · obtain ⟨tl, htl, rfl⟩ := bind_ok_ok h
        cases keyed with
        | false => exact items_lex_lines d (ihl _ (d+1) tl hc (hnk rfl) htl) (List.cons_ne_nil _ _)
        | true =>
          obtain ⟨hall, hcat⟩ := hk rfl
          exact items_lex_alines d (ihal _ (d+1) tl hc hall htl) (List.cons_ne_nil _ _) hall hcat
    case lines =>
      intro xs d t hc hna h
      cases xs with
      | nil => injection h with h; subst h; exact ⟨.inl rfl, fun _ lc _ => ⟨.nil, lc, rfl, trivial, rfl⟩⟩
      | cons x xs =>
        rw [fmtLines_cons] at h
        obtain ⟨tx, hx, h⟩ := bind_ok h
        obtain ⟨rest, hr, rfl⟩ := bind_ok_ok h
        obtain ⟨hcx, hcs⟩ : Canon env.mkSet max d x ∧ CanonList env.mkSet max d xs := hc
        exact lines_lex_cons d (ihv x d tx hcx (hna x List.mem_cons_self) hx)
          (ihl xs d rest hcs (fun y hy => hna y (List.mem_cons_of_mem _ hy)) hr)
    case alines =>
      intro xs d t hc hall h
      cases xs with
      | nil => injection h with h; subst h; exact ⟨.inl rfl, fun _ lc _ => ⟨.nil, lc, rfl, trivial, rfl⟩⟩
      | cons x xs =>
        rw [fmtLines_cons] at h
        obtain ⟨tx, hx, h⟩ := bind_ok h
        obtain ⟨rest, hr, rfl⟩ := bind_ok_ok h
        obtain ⟨k, y, rfl⟩ := isAssocVal_eq_true (hall x List.mem_cons_self)
        obtain ⟨⟨hcy, hny⟩, hcs⟩ : (Canon env.mkSet max d y ∧ isAssocVal y = false) ∧ CanonList env.mkSet max d xs := hc
        exact alines_lex_cons d (iha k y d tx hcy hny hx)
          (ihal xs d rest hcs (fun y hy => hall y (List.mem_cons_of_mem _ hy)) hr)

end Cdcn
end CM
