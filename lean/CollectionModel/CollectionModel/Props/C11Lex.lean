/-
  C11, lexical level — the expression definitions of Syntax.cdsn for the literal kinds that
  have an unbounded set of spellings, proved for EVERY spelling:

    float:  sign? (zero | ordinal) '.' base10+ (('e'|'E') sign ordinal)?       C11_scan_float
    string: '"' (ESCAPE | ~['"' CONTROL])* '"'                                 C11_scan_string
    rune:   "'" (ESCAPE | any single character except the quote) "'"           C11_scan_rune

  (ordinal, integer, hexadecimal: Props/C11.lean).  Each theorem says that the recogniser of
  the scanner model matches exactly the whole literal, whatever follows it, provided what
  follows cannot extend the literal (a digit or an exponent after a float).
-/
import CollectionModel.Props.C11
import CollectionModel.Lemmas.ScanHeads
namespace CM
open CM.Cdcn

theorem isDigit_of_19 (d : Nat) (h : isDigit19 d = true) : isDigit d = true :=
  (isDigit_iff d).mpr (by have := (isDigit19_iff d).mp h; omega)

/-- `(?:zero_|ordinal_)` on the integer part of a float: it is followed by the point -/
theorem zeroOrOrdinal_int (ip tail : List Nat)
    (hip : ip = [48] ∨ ∃ d ds, ip = d :: ds ∧ isDigit19 d = true ∧ ∀ c ∈ ds, isDigit c = true) :
    mZeroOrOrdinal (ip ++ 46 :: tail) = some ip.length := by
  rcases hip with rfl | ⟨d, ds, rfl, hd, hds⟩
  · simp [mZeroOrOrdinal, ch_codes]
  · have := C11_scan_ordinal d ds (46 :: tail) hd hds (forall_head_cons (by decide))
    simp only [List.cons_append] at this ⊢
    simp only [mZeroOrOrdinal, (digit19_not_zero_not_sign hd).1, Bool.false_eq_true, if_false, this, List.length_cons]
    exact congrArg some (Nat.add_comm _ _)

inductive ExpPart : List Nat → List Nat → Prop
  | none (rest : List Nat) (h : ∀ c, rest.head? = some c → isDigit c = false ∧ c ≠ 101 ∧ c ≠ 69) : ExpPart [] rest
  | some (e s d : Nat) (ds rest : List Nat) (he : e = 101 ∨ e = 69) (hs : isSign s = true) (hd : isDigit19 d = true)
      (hds : ∀ c ∈ ds, isDigit c = true) (hr : ∀ c, rest.head? = some c → isDigit c = false) : ExpPart (e :: s :: d :: ds) rest

theorem expPart_spec {ex rest : List Nat} (h : ExpPart ex rest) :
    mExponent (ex ++ rest) = (if ex = [] then none else some ex.length) ∧
      ∀ c, (ex ++ rest).head? = some c → isDigit c = false := by
  cases h with
  | none _ h =>
    refine ⟨?_, fun c hc => (h c hc).1⟩
    rcases rest with _ | ⟨c, _ | ⟨s, r⟩⟩
    · rfl
    · rfl
    · have := h c rfl; simp [mExponent, ch_codes, this.2.1, this.2.2]
  | some e s d ds _ he hs hd hds hr =>
    have hord := C11_scan_ordinal d ds rest hd hds hr
    have hcond : ((e == ch 'e' || e == ch 'E') && isSign s) = true := by
      simp only [ch_codes, hs]; rcases he with rfl | rfl <;> simp
    constructor
    · simp only [List.cons_append] at hord ⊢
      simp only [mExponent, hcond, if_true, hord, Option.map_some, if_neg (List.cons_ne_nil _ _), List.length_cons]
      exact congrArg some (by omega)
    · exact forall_head_cons (by rcases he with rfl | rfl <;> decide)

/-- **lexical rule `float`** (`sign? scalar exponent?`, `scalar: (zero | ordinal) fraction`), for every spelling -/
theorem C11_scan_float (sign : Option Nat) (ip : List Nat) (f : Nat) (fs ex rest : List Nat)
    (hs : ∀ s, sign = some s → isSign s = true)
    (hip : ip = [48] ∨ ∃ d ds, ip = d :: ds ∧ isDigit19 d = true ∧ ∀ c ∈ ds, isDigit c = true)
    (hf : isDigit f = true) (hfs : ∀ c ∈ fs, isDigit c = true) (hex : ExpPart ex rest) :
    mFloat (sign.toList ++ (ip ++ 46 :: (f :: fs ++ (ex ++ rest)))) = some (sign.toList.length + ip.length + 1 + (1 + fs.length) + ex.length) := by
  obtain ⟨c0, r0, hc0, hns0⟩ : ∃ c r, ip = c :: r ∧ isSign c = false := by
    rcases hip with rfl | ⟨d, ds, rfl, hd, _⟩
    · exact ⟨48, [], rfl, by decide⟩
    · exact ⟨d, ds, rfl, (digit19_not_zero_not_sign hd).2⟩
  obtain ⟨hexp, hr⟩ := expPart_spec hex
  have hspan : spanLen isDigit (f :: fs ++ (ex ++ rest)) = 1 + fs.length :=
    (spanLen_all isDigit (f :: fs) (ex ++ rest) (List.forall_mem_cons.mpr ⟨hf, hfs⟩) hr).trans (Nat.add_comm _ _)
  have hzo := zeroOrOrdinal_int ip (f :: fs ++ (ex ++ rest)) hip
  unfold mFloat
  -- `s`, the length of the sign as the recogniser computes it, is the length of the sign part
  extract_lets s
  have hslen : s = sign.toList.length := by
    cases sign with
    | none => simp [s, hc0, hns0]
    | some sg => simp [s, hs sg rfl]
  clear_value s; subst hslen
  -- so every `drop` lands on a boundary between the parts
  have d1 : List.drop (sign.toList.length + ip.length) (sign.toList ++ (ip ++ 46 :: (f :: fs ++ (ex ++ rest)))) =
      46 :: (f :: fs ++ (ex ++ rest)) := by
    rw [← List.drop_drop, List.drop_left, List.drop_left]
  have d2 : List.drop (sign.toList.length + ip.length + 1 + (1 + fs.length))
      (sign.toList ++ (ip ++ 46 :: (f :: fs ++ (ex ++ rest)))) = ex ++ rest := by
    rw [← List.drop_drop, ← List.drop_drop (j := sign.toList.length + ip.length), d1]
    exact List.drop_left' (Nat.add_comm _ _)
  simp only [List.drop_left, hzo, d1, ch_codes, beq_self_eq_true, if_true, hspan, d2, hexp]
  by_cases hexnil : ex = [] <;> simp [hexnil]

/-- the entry of the dynamic programme for the text itself -/
def sb (s : List Nat) : Option Nat := (strBody s).headD none

theorem strBody_getD : ∀ (s : List Nat) (j : Nat), (strBody s).getD j none = sb (s.drop j)
  | [], j => by cases j <;> rfl
  | _ :: _, 0 => rfl
  | _ :: r, j+1 => strBody_getD r j

theorem sb_cons (c : Nat) (r : List Nat) :
    sb (c :: r) =
      ((match mEscape (c :: r) with
        | some k => (sb (r.drop (k - 1))).map (· + k)
        | none => none).orElse fun _ =>
       (if c != ch '"' && c != 10 then (sb r).map (· + 1) else none).orElse fun _ =>
       (if c == ch '"' then some 1 else none)) := by
  simp only [sb, strBody, List.headD_cons]
  cases mEscape (c :: r) with
  | none => rfl
  | some k =>
    simp only
    have := strBody_getD r (k - 1)
    simp only [sb] at this
    rw [this]

def ValidEsc (e : List Nat) : Prop := 2 ≤ e.length ∧ ∀ rest, mEscape (e ++ rest) = some e.length

inductive StrItem
  | chr (c : Nat)
  | esc (e : List Nat)

def StrItem.ok : StrItem → Prop
  | .chr c => c ≠ 34 ∧ c ≠ 10 ∧ c ≠ 92
  | .esc e => ValidEsc e

def StrItem.text : StrItem → List Nat
  | .chr c => [c]
  | .esc e => e

def flat : List StrItem → List Nat
  | [] => []
  | i :: is => i.text ++ flat is

theorem mEscape_not_backslash (c : Nat) (r : List Nat) (h : c ≠ 92) : mEscape (c :: r) = none := by
  cases r with
  | nil => rfl
  | cons d r => simp [mEscape, ch_codes, h]

/-! the table entry at the closing quote, at an ordinary character and at an escape -/

theorem sb_quote (r : List Nat) : sb (34 :: r) = some 1 := by
  rw [sb_cons, mEscape_not_backslash 34 r (by decide)]; rfl

theorem sb_chr {c : Nat} (r : List Nat) (h : c ≠ 34 ∧ c ≠ 10 ∧ c ≠ 92) : sb (c :: r) = (sb r).map (· + 1) := by
  rw [sb_cons, mEscape_not_backslash c r h.2.2]
  cases sb r <;> simp [ch_codes, h.1, h.2.1]

theorem sb_esc {e : List Nat} (r : List Nat) (h : ValidEsc e) {n : Nat} (hr : sb r = some n) :
    sb (e ++ r) = some (n + e.length) := by
  obtain ⟨hlen, hesc⟩ := h
  obtain ⟨c, t, rfl⟩ : ∃ c t, e = c :: t := List.exists_cons_of_ne_nil fun h0 => by rw [h0] at hlen; cases hlen
  have hm := hesc r
  -- the entry looked up lies `e.length - 1` places after the backslash: where `r` begins
  have hd : (t ++ r).drop ((c :: t).length - 1) = r := List.drop_left
  rw [List.cons_append] at hm ⊢
  rw [sb_cons, hm]
  simp only [hd, hr]
  rfl

theorem sb_body : ∀ (items : List StrItem) (rest : List Nat), (∀ i ∈ items, i.ok) →
    sb (flat items ++ 34 :: rest) = some ((flat items).length + 1)
  | [], rest, _ => sb_quote rest
  | .chr c :: items, rest, h => by
    have ih := sb_body items rest fun i hi => h i (List.mem_cons_of_mem _ hi)
    show sb (c :: (flat items ++ 34 :: rest)) = some ((flat items).length + 1 + 1)
    rw [sb_chr _ (h (.chr c) List.mem_cons_self), ih]
    rfl
  | .esc e :: items, rest, h => by
    have ih := sb_body items rest fun i hi => h i (List.mem_cons_of_mem _ hi)
    show sb (e ++ flat items ++ 34 :: rest) = some ((e ++ flat items).length + 1)
    rw [List.append_assoc, sb_esc _ (h (.esc e) List.mem_cons_self) ih, List.length_append]
    exact congrArg some (by omega)

/-- **lexical rule `string`** (`'"' (ESCAPE | ~['"' CONTROL])* '"'`): every string literal – any
    sequence of ordinary characters and escape sequences between quotes – is matched entirely,
    whatever follows the closing quote -/
theorem C11_scan_string (items : List StrItem) (rest : List Nat) (h : ∀ i ∈ items, i.ok) :
    mString (34 :: (flat items ++ 34 :: rest)) = some ((flat items).length + 2) := by
  have := sb_body items rest h
  simp only [sb, List.headD_eq_head?_getD] at this
  simp [mString, ch_codes, this]

/-- the escapes of the grammar are valid: the simple ones ... -/
theorem validEsc_simple (c : Nat) (h : c ∈ [97, 98, 102, 110, 114, 116, 118, 39, 34, 92]) : ValidEsc [92, c] := by
  refine ⟨by simp, fun rest => ?_⟩
  simp only [List.mem_cons, List.mem_nil_iff, or_false] at h
  rcases h with rfl | rfl | rfl | rfl | rfl | rfl | rfl | rfl | rfl | rfl <;> rfl

/-- ... and `\xHH` (likewise `\uHHHH`, `\UHHHHHHHH`) -/
theorem validEsc_x (a b : Nat) (ha : isHex a = true) (hb : isHex b = true) : ValidEsc [92, 120, a, b] := by
  refine ⟨by simp, fun rest => ?_⟩
  simp [mEscape, ch, hexN, ha, hb]

example : mString ("\"a\\n\\x41\\\"b\" tail".toList.map ch) = some 12 := by
  simp only [String.reduceToList, List.map, ch, Char.reduceToNat]; decide

/-- **lexical rule `rune`**, an ordinary character between quotes -/
theorem C11_scan_rune_char (c : Nat) (rest : List Nat) (h : c ≠ 39 ∧ c ≠ 10 ∧ c ≠ 92) :
    mRune (39 :: c :: 39 :: rest) = some 3 := by
  simp [mRune, ch_codes, mEscape_not_backslash c (39 :: rest) h.2.2, h.1, h.2.1]

/-- **lexical rule `rune`**, an escape sequence between quotes -/
theorem C11_scan_rune_esc (e rest : List Nat) (h : ValidEsc e) :
    mRune (39 :: (e ++ 39 :: rest)) = some (e.length + 2) := by
  have hd : List.drop e.length (e ++ 39 :: rest) = 39 :: rest := List.drop_left
  simp only [mRune, ch_codes, h.2 (39 :: rest), hd]
  exact congrArg some (by omega)

/-! ### the token kinds: which recogniser wins in `scanTokens` -/

/-- a text starting with a double quote is a string token or no token at all -/
theorem C11_token_string (r : List Nat) : matchToken (34 :: r) = (mString (34 :: r)).map fun n => (TT.string, n) :=
  matchToken_one _ _ rfl

/-- a text starting with a single quote is a rune token or no token at all -/
theorem C11_token_rune (r : List Nat) : matchToken (39 :: r) = (mRune (39 :: r)).map fun n => (TT.rune, n) :=
  matchToken_one _ _ rfl

/-- a text the float recogniser matches, starting with a sign or a digit, is a float token -/
theorem C11_token_float (c : Nat) (r : List Nat) (n : Nat) (hc : isSign c = true ∨ isDigit c = true)
    (hm : mFloat (c :: r) = some n) : matchToken (c :: r) = some (.float, n) := by
  have hlt : c < 58 := by
    rcases hc with h | h
    · have := (isSign_iff c).mp h; omega
    · have := (isDigit_iff c).mp h; omega
  -- the four patterns tried before `float` cannot begin with a sign or a digit: a look at the code points up to `9`
  have hb := (by decide : ∀ c < 58, isSign c = true ∨ isDigit c = true →
    heads .boolean c = false ∧ heads .complex c = false ∧ heads .delimiter c = false ∧ heads .eol c = false) c hlt hc
  simp only [matchToken, matchers, firstMatch, mBoolean_head hb.1, mComplex_head hb.2.1, mDelimiter_head hb.2.2.1,
    mEol_head hb.2.2.2, hm]

/-- the spellings of `float`: sign? (zero | ordinal) '.' base10+ exponent? -/
def IsFloatText (F : List Nat) : Prop :=
  ∃ (sign : Option Nat) (ip : List Nat) (f : Nat) (fs ex : List Nat),
    F = sign.toList ++ (ip ++ 46 :: (f :: fs ++ ex)) ∧
    (∀ s, sign = some s → isSign s = true) ∧
    (ip = [48] ∨ ∃ d ds, ip = d :: ds ∧ isDigit19 d = true ∧ ∀ c ∈ ds, isDigit c = true) ∧
    isDigit f = true ∧ (∀ c ∈ fs, isDigit c = true) ∧
    (ex = [] ∨ ∃ e s d ds, ex = e :: s :: d :: ds ∧ (e = 101 ∨ e = 69) ∧ isSign s = true ∧ isDigit19 d = true ∧ ∀ c ∈ ds, isDigit c = true)

/-- `hr`: what follows cannot extend the float (the hypothesis of `ExpPart.none`) -/
theorem float_text_match (F rest : List Nat) (hF : IsFloatText F)
    (hr : ∀ c, rest.head? = some c → isDigit c = false ∧ c ≠ 101 ∧ c ≠ 69) : mFloat (F ++ rest) = some F.length := by
  obtain ⟨sign, ip, f, fs, ex, rfl, hs, hip, hf, hfs, hex⟩ := hF
  have hexp : ExpPart ex rest := by
    rcases hex with rfl | ⟨e, s, d, ds, rfl, he, hs', hd, hds⟩
    · exact ExpPart.none rest hr
    · exact ExpPart.some e s d ds rest he hs' hd hds (fun c hc => (hr c hc).1)
  have := C11_scan_float sign ip f fs ex rest hs hip hf hfs hexp
  simp only [List.append_assoc, List.cons_append] at this ⊢
  rw [this]
  simp [List.length_append]; omega

/-- **lexical rule `complex`** (`"(" float sign float "i)"`), for every spelling of the two floats -/
theorem C11_scan_complex (F1 F2 : List Nat) (sg : Nat) (rest : List Nat) (h1 : IsFloatText F1) (h2 : IsFloatText F2)
    (hsg : isSign sg = true) :
    mComplex (40 :: (F1 ++ sg :: (F2 ++ 105 :: 41 :: rest))) = some (1 + F1.length + 1 + F2.length + 2) := by
  have hsgr := (isSign_iff sg).mp hsg
  have m1 := float_text_match F1 (sg :: (F2 ++ 105 :: 41 :: rest)) h1
    (forall_head_cons (by rcases hsgr with rfl | rfl <;> decide))
  have m2 := float_text_match F2 (105 :: 41 :: rest) h2 (forall_head_cons (by decide))
  have d1 : List.drop F1.length (F1 ++ sg :: (F2 ++ 105 :: 41 :: rest)) = sg :: (F2 ++ 105 :: 41 :: rest) := List.drop_left
  have d2 : List.drop F2.length (F2 ++ 105 :: 41 :: rest) = 105 :: 41 :: rest := List.drop_left
  simp [mComplex, ch_codes, m1, d1, hsg, m2, d2]

example : IsFloatText ("-12.50E+3".toList.map ch) :=
  ⟨some 45, [49, 50], 53, [48], [69, 43, 51], by simp [ch], by intro s h; cases h; decide,
    Or.inr ⟨49, [50], rfl, by decide, by decide⟩, by decide, by decide, Or.inr ⟨69, 43, 51, [], rfl, Or.inr rfl, by decide, by decide, by simp⟩⟩

end CM
