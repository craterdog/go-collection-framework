/-
  Lemmas about the queue model of Model/Queue.lean: the inversion of `step`, the preservation of
  the accounting invariant, what `setPC` and `run` do; before them a few facts about `List.set`
  that the thread lists of this model and of Model/QProg.lean need.
-/
import CollectionModel.Model.Queue
namespace CM

section list
variable {β : Type}

theorem set_split {l : List β} {t : Nat} {a : β} (h : l[t]? = some a) :
    ∃ l1 l2, l = l1 ++ a :: l2 ∧ ∀ b, l.set t b = l1 ++ b :: l2 := by
  obtain ⟨hl, rfl⟩ := List.getElem?_eq_some_iff.mp h
  refine ⟨l.take t, l.drop (t + 1), ?_, fun b => ?_⟩
  · rw [List.getElem_cons_drop, List.take_append_drop]
  · rw [List.set_eq_take_append_cons_drop, if_pos hl]

theorem any_set_congr {p : β → Bool} {l : List β} {t : Nat} {a b : β} (h : l[t]? = some a) (hp : p b = p a) :
    (l.set t b).any p = l.any p := by
  obtain ⟨l1, l2, rfl, hs⟩ := set_split h
  rw [hs, List.any_append, List.any_append, List.any_cons, List.any_cons, hp]

theorem sum_map_set (f : β → Nat) (l : List β) (t : Nat) (a b : β) (h : l[t]? = some a) :
    ((l.set t b).map f).sum + f a = (l.map f).sum + f b := by
  obtain ⟨l1, l2, rfl, hs⟩ := set_split h
  rw [hs]; simp only [List.map_append, List.map_cons, List.sum_append, List.sum_cons]; omega

theorem countP_eq_zero_of_false {p : β → Bool} {l : List β} (h : ∀ x ∈ l, p x = false) : l.countP p = 0 :=
  List.countP_eq_zero.mpr fun x hx => by rw [h x hx]; exact Bool.false_ne_true

theorem exists_index_of_any {p : β → Bool} {l : List β} (h : l.any p = true) :
    ∃ (t : Nat) (x : β), l[t]? = some x ∧ p x = true := by
  obtain ⟨x, hx, hp⟩ := List.any_eq_true.mp h
  obtain ⟨t, ht, rfl⟩ := List.getElem_of_mem hx
  exact ⟨t, _, List.getElem?_eq_getElem ht, hp⟩

theorem exists_index_of_not_all {p : β → Bool} {l : List β} (h : ¬ l.all p = true) :
    ∃ (t : Nat) (x : β), l[t]? = some x ∧ p x = false := by
  obtain ⟨t, x, hx, hp⟩ := exists_index_of_any (p := fun x => !p x) (by simpa using h)
  exact ⟨t, x, hx, by simpa using hp⟩

end list

namespace Q

variable {α : Type} [DecidableEq α]

/-- RemoveAll is safe only when no other call is in the middle of the token protocol -/
def quiescent (s : St α) : Prop := cnt isClaimed s = 0 ∧ cnt isSending s = 0

def Ev.isRemoveAll : Ev α → Bool
  | .removeAllLock _ => true
  | _ => false

/-- events that a valid client cannot cause on a queue it uses correctly -/
def Ev.isSendPanic : Ev α → Bool
  | .addSendPanic _ => true
  | _ => false

/-- `step` as a relation: the guard of each event and the state it leads to -/
abbrev Fires (s : St α) (e : Ev α) (s' : St α) : Prop :=
  match e with
  | .call t pc => (s.threads[t]? = some .idle ∧ pc ≠ .idle ∧ pc ≠ .addSend ∧ pc ≠ .remLock) ∧ s' = setPC s t pc
  | .addLock t => ∃ v, s.threads[t]? = some (.addLock v) ∧
      s' = { setPC s t .addSend with vals := s.vals ++ [v], appended := s.appended ++ [v] }
  | .addSend t => (s.threads[t]? = some .addSend ∧ s.closed = false ∧ s.tokens < s.cap) ∧
      s' = { setPC s t .idle with tokens := s.tokens + 1 }
  | .addSendPanic t => (s.threads[t]? = some .addSend ∧ s.closed = true) ∧ s' = setPC s t .idle
  | .remRecv t true => (s.threads[t]? = some .remRecv ∧ 0 < s.tokens) ∧
      s' = { setPC s t .remLock with tokens := s.tokens - 1 }
  | .remRecv t false => (s.threads[t]? = some .remRecv ∧ s.tokens = 0 ∧ s.closed = true) ∧ s' = setPC s t .idle
  | .remLock t v => ∃ xs, (s.threads[t]? = some .remLock ∧ s.vals = v :: xs) ∧
      s' = { setPC s t .idle with vals := xs, popped := s.popped ++ [v] }
  | .remLockPanic t => (s.threads[t]? = some .remLock ∧ s.vals = []) ∧ s' = setPC s t .idle
  | .closeLock t => (s.threads[t]? = some .closeLock ∧ s.closed = false) ∧ s' = { setPC s t .idle with closed := true }
  | .closePanic t => (s.threads[t]? = some .closeLock ∧ s.closed = true) ∧ s' = setPC s t .idle
  | .sizeLock t n => (s.threads[t]? = some .sizeLock ∧ n = s.tokens) ∧ s' = setPC s t .idle
  | .emptyLock t b => (s.threads[t]? = some .emptyLock ∧ b = (s.tokens == 0)) ∧ s' = setPC s t .idle
  | .arrayLock t l => (s.threads[t]? = some .arrayLock ∧ l = s.vals) ∧ s' = setPC s t .idle
  | .removeAllLock t => s.threads[t]? = some .removeAllLock ∧
      s' = { setPC s t .idle with tokens := 0, closed := false, vals := [], popped := s.popped ++ s.vals }

/-- the shape of ten of the thirteen arms of `step` -/
theorem ite_some_iff {σ : Type} {c : Prop} [Decidable c] {a b : σ} : (if c then some a else none) = some b ↔ c ∧ b = a := by
  rw [Option.ite_none_right_eq_some, Option.some.injEq, eq_comm]

omit [DecidableEq α] in
theorem addLock_some_iff {σ : Type} {o : Option (PC α)} {r : α → σ} {b : σ} :
    (match o with | some (.addLock v) => some (r v) | _ => none) = some b ↔ ∃ v, o = some (.addLock v) ∧ b = r v := by
  split
  · next v => exact ⟨fun h => ⟨v, rfl, (Option.some.inj h).symm⟩, fun ⟨w, hw, e⟩ => by cases hw; exact congrArg some e.symm⟩
  · next hne => exact ⟨nofun, fun ⟨w, hw, _⟩ => absurd hw (hne w)⟩

theorem head_some_iff {σ : Type} {l : List α} {v : α} {r : α → List α → σ} {b : σ} :
    (match l with | x :: xs => if x = v then some (r x xs) else none | [] => none) = some b ↔
      ∃ xs, l = v :: xs ∧ b = r v xs := by
  cases l with
  | nil => exact ⟨nofun, nofun⟩
  | cons x xs =>
    refine ite_some_iff.trans ⟨?_, ?_⟩
    · rintro ⟨rfl, e⟩; exact ⟨xs, rfl, e⟩
    · rintro ⟨xs', e, rfl⟩; cases e; exact ⟨rfl, rfl⟩

theorem step_iff {s s' : St α} {e : Ev α} : step s e = some s' ↔ Fires s e s' := by
  -- each arm of `step` unfolds to one of the three shapes above, under the thread's guard where there is a second test
  cases e with
  | call _ _ | addSend _ | addSendPanic _ | remLockPanic _ | closeLock _ | closePanic _ | sizeLock _ _ | emptyLock _ _
  | arrayLock _ _ | removeAllLock _ => exact ite_some_iff
  | addLock t => exact addLock_some_iff
  | remRecv t ok =>
    cases ok <;> exact Option.ite_none_right_eq_some.trans ((and_congr_right fun _ => ite_some_iff).trans and_assoc.symm)
  | remLock t v =>
    exact Option.ite_none_right_eq_some.trans ((and_congr_right fun _ => head_some_iff).trans
      (exists_and_left.symm.trans (exists_congr fun _ => and_assoc.symm)))

/-- the list values a thread accounts for: the one it appended and has not announced by a token yet
    (`addSend`), or the one whose token it holds (`remLock`) -/
def held : PC α → Nat
  | .addSend | .remLock => 1
  | _ => 0

omit [DecidableEq α] in
theorem held_sum (l : List (PC α)) : l.countP isClaimed + l.countP isSending = (l.map held).sum := by
  induction l with
  | nil => rfl
  | cons x l ih =>
    rw [List.countP_cons, List.countP_cons, List.map_cons, List.sum_cons, ← ih, Nat.add_add_add_comm, Nat.add_comm (held x)]
    congr 1
    cases x <;> rfl

omit [DecidableEq α] in
/-- `QInv` sees the thread list only through the number of held values -/
theorem QInv_move {s s' : St α} {t : Nat} {a b : PC α} (hs : QInv s) (ht : s.threads[t]? = some a)
    (hth : s'.threads = s.threads.set t b)
    (hl : s'.vals.length + s.tokens + held a = s.vals.length + s'.tokens + held b)
    (hk : s'.tokens ≤ s'.cap) (hg : s'.appended = s'.popped ++ s'.vals) : QInv s' := by
  have e := sum_map_set held s.threads t a b ht
  have := hs.1
  refine ⟨?_, hk, hg⟩
  simp only [cnt, hth, Nat.add_assoc, held_sum] at this ⊢
  omega

omit [DecidableEq α] in
theorem claimed_vals_ne_nil {s : St α} {t : Nat} (hs : QInv s) (h : s.threads[t]? = some .remLock) : s.vals ≠ [] := by
  have claimed : 0 < cnt isClaimed s := List.countP_pos_iff.mpr ⟨_, List.mem_of_getElem? h, rfl⟩
  have le : cnt isClaimed s ≤ s.vals.length := by
    rw [hs.1]; exact Nat.le_trans (Nat.le_add_left ..) (Nat.le_add_right ..)
  exact List.ne_nil_of_length_pos (Nat.lt_of_lt_of_le claimed le)

theorem step_inv (s s' : St α) (e : Ev α) (hs : QInv s) (hq : e.isRemoveAll = true → quiescent s)
    (hp : e.isSendPanic = false) (h : step s e = some s') : QInv s' := by
  cases e with
  | call t pc =>
    obtain ⟨⟨ht, -, hd, hc⟩, rfl⟩ := step_iff.mp h
    -- a call enters at a pc that holds no value: `addSend` and `remLock`, the only ones that do, are excluded
    have hpc : held pc = 0 := by
      unfold held; split
      · exact absurd rfl hd
      · exact absurd rfl hc
      · rfl
    exact QInv_move hs ht rfl (by rw [hpc]; rfl) hs.2.1 hs.2.2
  | addLock t =>
    obtain ⟨v, ht, rfl⟩ := step_iff.mp h
    refine QInv_move hs ht rfl ?_ hs.2.1 ?_
    · simp only [held, setPC_tokens, List.length_append, List.length_singleton]; exact Nat.add_right_comm s.vals.length 1 s.tokens
    · simp only [setPC_popped, hs.2.2, List.append_assoc]
  | addSend t =>
    obtain ⟨⟨ht, -, hlt⟩, rfl⟩ := step_iff.mp h
    exact QInv_move hs ht rfl rfl hlt hs.2.2
  | addSendPanic t => cases hp
  | remRecv t ok =>
    cases ok with
    | true =>
      obtain ⟨⟨ht, hpos⟩, rfl⟩ := step_iff.mp h
      refine QInv_move hs ht rfl ?_ (Nat.le_trans (Nat.sub_le ..) hs.2.1) hs.2.2
      show s.vals.length + s.tokens = s.vals.length + (s.tokens - 1) + 1
      rw [Nat.add_assoc, Nat.sub_add_cancel hpos]
    | false =>
      obtain ⟨⟨ht, -⟩, rfl⟩ := step_iff.mp h
      exact QInv_move hs ht rfl rfl hs.2.1 hs.2.2
  | remLock t v =>
    obtain ⟨xs, ⟨ht, hv⟩, rfl⟩ := step_iff.mp h
    refine QInv_move hs ht rfl ?_ hs.2.1 ?_
    · simp only [held, setPC_tokens, hv, List.length_cons]; exact (Nat.add_right_comm xs.length 1 s.tokens).symm
    · simp only [setPC_appended, hs.2.2, hv, List.append_assoc, List.singleton_append]
  | remLockPanic t =>
    obtain ⟨⟨ht, hv⟩, -⟩ := step_iff.mp h
    exact absurd hv (claimed_vals_ne_nil hs ht)
  | removeAllLock t =>
    obtain ⟨ht, rfl⟩ := step_iff.mp h
    obtain ⟨q1, q2⟩ := hq rfl
    refine QInv_move hs ht rfl ?_ (Nat.zero_le _) ?_
    · simp only [held, List.length_nil, hs.1, q1, q2, Nat.add_zero, Nat.zero_add]
    · simp only [setPC_appended, hs.2.2, List.append_nil]
  | closeLock _ | closePanic _ | sizeLock _ _ | emptyLock _ _ | arrayLock _ _ =>
    obtain ⟨⟨ht, -⟩, rfl⟩ := step_iff.mp h
    exact QInv_move hs ht rfl rfl hs.2.1 hs.2.2

omit [DecidableEq α] in
theorem setPC_setPC (s : St α) (t : Nat) (a b : PC α) : setPC (setPC s t a) t b = setPC s t b := by
  simp only [setPC, List.set_set]

omit [DecidableEq α] in
theorem setPC_self {s : St α} {t : Nat} {a : PC α} (h : s.threads[t]? = some a) : setPC s t a = s := by
  obtain ⟨hl, rfl⟩ := List.getElem?_eq_some_iff.mp h
  simp only [setPC, List.set_getElem_self]

omit [DecidableEq α] in
theorem setPC_get {s : St α} {t : Nat} {a : PC α} (h : s.threads[t]? = some a) (b : PC α) :
    (setPC s t b).threads[t]? = some b := by
  simp only [setPC_threads, List.getElem?_set_self (List.getElem?_eq_some_iff.mp h).1]

theorem run_cons_eq {s s' : St α} {e : Ev α} (es : List (Ev α)) (h : step s e = some s') : run s (e :: es) = run s' es := by
  simp only [run, h]

theorem run_call {s s' : St α} {t : Nat} {pc : PC α} {e : Ev α} (ht : s.threads[t]? = some .idle)
    (hpc : pc ≠ .idle ∧ pc ≠ .addSend ∧ pc ≠ .remLock) (h : step (setPC s t pc) e = some s') :
    run s [.call t pc, e] = some s' := by
  have hc : step s (.call t pc) = some (setPC s t pc) := step_iff.mpr ⟨⟨ht, hpc⟩, rfl⟩
  rw [run_cons_eq _ hc, run_cons_eq _ h]; rfl

end Q
end CM
