/-
  T3L obligation for C02: the binary search TRANSLATED from the current text of
  `set_.findIndex` (Generated/LoopsSet.lean, rewritten on every run; `int` arithmetic wraps
  at 64 bits, `/` truncates) is the model's `SetM.findIndex`, for every list shorter than
  2^63, every collator and every probe.  `C02_findIndex` and everything built on it are
  therefore statements about the loop as it is written in the source now.
-/
import CollectionModel.Generated.LoopsSet
import CollectionModel.Lemmas.SetLemmas
namespace CM
namespace Tie
open CM.GoSem

/-- how the model's result is read as the Go result (`int`, `bool`) -/
def findRes (r : Option (Except Panic (Nat × Bool))) : Option (Except Panic (Int × Bool)) :=
  r.map (fun e => e.map (fun (p : Nat × Bool) => ((p.1 : Int), p.2)))

variable {α : Type} [Inhabited α]

/-- `first = lo + 1`, `last = lo + size`: the window form of `Lemmas/SetLemmas.lean` -/
theorem window_of {first last size : Nat} (h1 : 1 ≤ first) (h : last + 1 = first + size) :
    ∃ lo, first = lo + 1 ∧ last = lo + size := by
  obtain ⟨lo, rfl⟩ := Nat.exists_eq_add_of_le' h1
  exact ⟨lo, rfl, Nat.succ.inj (h.trans (Nat.add_right_comm lo 1 size))⟩

/-- the search loop ends by its size argument, not by its fuel: more fuel changes nothing -/
theorem findLoop_fuel (rank : α → α → Rank) (l : List α) (v : α) :
    ∀ (f first last size : Nat), size < f → 1 ≤ first → last + 1 = first + size → ∀ g, f ≤ g →
      SetM.findLoop rank l v g first last size = SetM.findLoop rank l v f first last size := by
  intro f
  induction f with
  | zero => intro first last size h; exact absurd h (Nat.not_lt_zero _)
  | succ f ih =>
    intro first last size hs h1 hinv g hg
    obtain ⟨g, rfl⟩ := fuel_succ (Nat.lt_of_succ_le hg)
    have hg := Nat.le_of_succ_le_succ hg
    by_cases h0 : size = 0
    · subst h0; rfl
    · obtain ⟨lo, rfl, rfl⟩ := window_of h1 hinv
      obtain ⟨d, e, rfl, hd⟩ := SetM.window_split h0
      rw [Nat.add_right_comm d 1 e] at hs
      have hs : d + e < f := Nat.lt_of_succ_lt_succ hs
      have hdf : d < f := Nat.lt_of_add_right_lt hs
      have hef : e < f := Nat.lt_of_add_left_lt hs
      rw [SetM.findLoop_succ rank l v g lo d e hd, SetM.findLoop_succ rank l v f lo d e hd]
      cases Seq.getValue l _ with
      | error p => rfl
      | ok c =>
        dsimp only
        cases rank v c with
        | lt => exact ih (lo + 1) (lo + d) d hdf (Nat.le_add_left 1 lo) (Nat.add_right_comm lo d 1) g hg
        | eq => rfl
        | gt =>
          exact ih (lo + d + 1 + 1) (lo + d + 1 + e) e hef (Nat.le_add_left 1 _) (Nat.add_right_comm _ e 1) g hg

/-- whatever the ranker answers, the search returns a position within `0 … |l|` -/
theorem findLoop_le (rank : α → α → Rank) (l : List α) (v : α) :
    ∀ (f first last size : Nat) (i : Nat) (b : Bool), 1 ≤ first → last + 1 = first + size → last ≤ l.length →
      SetM.findLoop rank l v f first last size = some (.ok (i, b)) → i ≤ l.length := by
  intro f
  induction f with
  | zero => intro _ _ _ _ _ _ _ _ h; cases h
  | succ f ih =>
    intro first last size i b h1 hinv hl
    by_cases h0 : size = 0
    · subst h0; intro h; cases h; exact hl
    · obtain ⟨lo, rfl, rfl⟩ := window_of h1 hinv
      obtain ⟨d, e, rfl, hd⟩ := SetM.window_split h0
      rw [← Nat.add_assoc, ← Nat.add_assoc] at hl
      have hp : lo + d + 1 ≤ l.length := Nat.le_trans (Nat.le_add_right _ e) hl
      rw [SetM.findLoop_succ rank l v f lo d e hd]
      cases Seq.getValue l _ with
      | error p => intro h; cases h
      | ok c =>
        dsimp only
        cases rank v c with
        | lt =>
          exact ih (lo + 1) (lo + d) d i b (Nat.le_add_left 1 lo) (Nat.add_right_comm lo d 1) (Nat.le_of_succ_le hp)
        | eq => intro h; cases h; exact hp
        | gt => exact ih (lo + d + 1 + 1) (lo + d + 1 + e) e i b (Nat.le_add_left 1 _) (Nat.add_right_comm _ e 1) hl

/-- one iteration of the translated loop does on the casts of `1 ≤ first ≤ m ≤ last` what the model's loop does on the
    naturals (`getSize` is not used by the loop) -/
theorem findIndex_loop1_succ (getSize : Int) (getValue : Int → Except Panic α) (rank : α → α → Rank) (v : α) (n : Nat)
    (hn : IsInt64 (n : Int)) (f first m last size : Nat) (hs : 0 < size) (hm : first + size / 2 = m) (h1 : 1 ≤ first)
    (hfm : first ≤ m) (hml : m ≤ last) (hl : last < n) :
    Generated.findIndex_loop1 getSize getValue rank v (f + 1) first last size =
      bindE (getValue m) fun c =>
        match rank v c with
        | .lt => Generated.findIndex_loop1 getSize getValue rank v f first (m - 1 : Nat) (m - first : Nat)
        | .eq => some (.ok (m, true))
        | .gt => Generated.findIndex_loop1 getSize getValue rank v f (m + 1 : Nat) last (last - m : Nat) := by
  have hmn : m < n := Nat.lt_of_le_of_lt hml hl
  have sub {k m : Nat} (hk : k ≤ m) (hm : m < n) : w64 ((m : Int) - (k : Int)) = ((m - k : Nat) : Int) :=
    w64_natCast hn (Int.natCast_sub hk).symm (Nat.le_trans (Nat.sub_le m k) (Nat.le_of_lt hm))
  have hpred := sub (Nat.le_trans h1 hfm) hmn
  rw [Int.natCast_one] at hpred
  rw [Generated.findIndex_loop1, if_pos (decide_eq_true (Int.natCast_pos.mpr hs)), tdiv2, ← Int.natCast_add, hm,
    w64_id (hn.natCast_le (Nat.le_of_lt hmn))]
  simp only [hpred, sub hfm hmn, sub hml hl, w64_succ_lt hmn hn]
  refine congrArg (bindE _) (funext fun c => ?_)
  cases rank v c <;> rfl

/-- No bound on the fuel: the two loops run out of it together; `findLoop_fuel` then trades the caller's fuel for the model's. -/
theorem findIndex_loop_tie (rank : α → α → Rank) (l : List α) (v : α) (hl : IsInt64 ((l.length : Int) + 1)) :
    ∀ (fuel lo size : Nat), lo + size ≤ l.length →
      Generated.findIndex_loop1 (l.length : Int) (fun i => Seq.getValue l i) rank v fuel (lo + 1 : Nat) (lo + size : Nat) size
        = findRes (SetM.findLoop rank l v fuel (lo + 1) (lo + size) size) := by
  intro fuel
  induction fuel with
  | zero => intro _ _ _; rfl
  | succ f ih =>
    intro lo size h
    by_cases h0 : size = 0
    · subst h0; rfl
    · obtain ⟨d, e, rfl, hd⟩ := SetM.window_split h0
      rw [← Nat.add_assoc, ← Nat.add_assoc] at h
      have hp : lo + d + 1 ≤ l.length := Nat.le_trans (Nat.le_add_right _ e) h
      rw [SetM.findLoop_succ rank l v f lo d e hd, ← Nat.add_assoc lo, ← Nat.add_assoc lo,
        findIndex_loop1_succ _ _ rank v (l.length + 1) hl f (lo + 1) (lo + d + 1) (lo + d + 1 + e) _
          (hs := Nat.pos_of_ne_zero h0) (hm := by rw [hd, Nat.add_right_comm]) (h1 := Nat.le_add_left 1 lo)
          (hfm := Nat.succ_le_succ (Nat.le_add_right lo d)) (hml := Nat.le_add_right _ e) (hl := Nat.lt_succ_of_le h)]
      cases Seq.getValue l _ with
      | error p => rfl
      | ok c =>
        dsimp only [bindE_ok]
        cases rank v c with
        | lt =>
          rw [Nat.add_sub_cancel, SetM.probe_sub]
          exact ih lo d (Nat.le_of_succ_le hp)
        | eq => rfl
        | gt =>
          rw [Nat.add_sub_cancel_left]
          exact ih (lo + d + 1) e h

/-- non-vacuity: a three-element set, found and not found -/
example : Generated.findIndex (3 : Int) (fun i => Seq.getValue [10, 20, 30] i) rankInt (20 : Int) 4 = some (.ok (2, true)) := by rfl
example : Generated.findIndex (3 : Int) (fun i => Seq.getValue [10, 20, 30] i) rankInt (25 : Int) 4 = some (.ok (2, false)) := by rfl

/-! ### the other methods of `set_`: the translated binary search followed by the list's InsertValue / RemoveValue -/

/-- the translated `findIndex` with any sufficient fuel -/
theorem findIndex_tie_fuel (rank : α → α → Rank) (l : List α) (v : α) (hl : IsInt64 ((l.length : Int) + 1)) (fuel : Nat)
    (hf : l.length < fuel) :
    Generated.findIndex (l.length : Int) (fun i => Seq.getValue l i) rank v fuel = findRes (SetM.findIndex rank l v) := by
  unfold Generated.findIndex SetM.findIndex
  have h := findIndex_loop_tie rank l v hl fuel 0 l.length (Nat.le_of_eq (Nat.zero_add _))
  rw [Nat.zero_add, Nat.zero_add, findLoop_fuel rank l v (l.length + 1) 1 l.length l.length (Nat.lt_succ_self _)
    (Nat.le_refl 1) (Nat.add_comm _ _) fuel hf] at h
  exact h

/-- `set_.findIndex` as written in set.go = `SetM.findIndex` (with the model's fuel) -/
theorem findIndex_tie {α : Type} [Inhabited α] (rank : α → α → Rank) (l : List α) (v : α)
    (hl : IsInt64 ((l.length : Int) + 1)) :
    Generated.findIndex (l.length : Int) (fun i => Seq.getValue l i) rank v (l.length + 1)
      = findRes (SetM.findIndex rank l v) :=
  findIndex_tie_fuel rank l v hl (l.length + 1) (Nat.lt_succ_self _)

theorem findIndex_le (rank : α → α → Rank) (l : List α) (v : α) (i : Nat) (b : Bool)
    (h : SetM.findIndex rank l v = some (.ok (i, b))) : i ≤ l.length :=
  findLoop_le rank l v _ 1 l.length l.length i b (Nat.le_refl 1) (Nat.add_comm _ _) (Nat.le_refl _) h

/-- how a model result (`none` = hang) is read as the translated method's result -/
def setRes {β γ : Type} (f : β → γ) (r : SetM.R β) : Option (Except Panic γ) := r.map (fun e => e.map f)

/-! `SetM.bindR` is `GoSem.bindO`: a translated call sequence is the model's as soon as the two continuations agree on
    every value the first call can return; `findRes` and `setRes` move into the continuation. -/

theorem bindO_eq_bindR {β γ : Type} {x : SetM.R β} {f g : β → Option (Except Panic γ)}
    (h : ∀ b, x = some (.ok b) → f b = g b) : bindO x f = SetM.bindR x g := by
  cases x with
  | none => rfl
  | some e => cases e with
    | error p => rfl
    | ok b => exact h b rfl

theorem bindO_setRes {β γ δ : Type} (k : β → γ) (x : SetM.R β) (f : γ → Option (Except Panic δ)) :
    bindO (setRes k x) f = bindO x fun b => f (k b) := by
  cases x with
  | none => rfl
  | some e => cases e <;> rfl

theorem bindO_findRes {δ : Type} (x : SetM.R (Nat × Bool)) (f : Int × Bool → Option (Except Panic δ)) :
    bindO (findRes x) f = bindO x fun p => f ((p.1 : Int), p.2) := bindO_setRes _ x f

theorem setRes_bindR {β γ δ : Type} (k : γ → δ) (x : SetM.R β) (f : β → SetM.R γ) :
    setRes k (SetM.bindR x f) = SetM.bindR x fun b => setRes k (f b) := by
  cases x with
  | none => rfl
  | some e => cases e <;> rfl

/-- `set_.AddValue` as written in set.go = `SetM.addValue` -/
theorem setAddValue_tie (rank : α → α → Rank) (l : List α) (v : α) (fuel : Nat) (hl : IsInt64 ((l.length : Int) + 1))
    (hf : l.length < fuel) :
    Generated.setAddValue rank v l fuel = SetM.addValue rank l v := by
  unfold Generated.setAddValue SetM.addValue
  rw [findIndex_tie_fuel rank l v hl fuel hf, bindO_findRes]
  refine bindO_eq_bindR fun (slot, found) h => ?_
  -- the slot goes through `uint`
  have hle := findIndex_le rank l v slot found h
  have e1 : (u64 (slot : Int)).toNat = slot := by
    rw [u64_natCast (IsInt64.natCast_le (n := l.length + 1) hl (Nat.le_succ_of_le hle))]; rfl
  cases found
  · simp only [Bool.not_false, if_true, Bool.false_eq_true, if_false, e1]
    cases Seq.insertValue l slot v <;> rfl
  · rfl

/-- `set_.RemoveValue` as written in set.go = `SetM.removeValue` -/
theorem setRemoveValue_tie (rank : α → α → Rank) (l : List α) (v : α) (fuel : Nat) (hl : IsInt64 ((l.length : Int) + 1))
    (hf : l.length < fuel) :
    Generated.setRemoveValue rank v l fuel = SetM.removeValue rank l v := by
  unfold Generated.setRemoveValue SetM.removeValue
  rw [findIndex_tie_fuel rank l v hl fuel hf, bindO_findRes]
  refine bindO_eq_bindR fun (index, found) _ => ?_
  cases found
  · rfl
  · simp only [if_true]
    cases Seq.removeValue l (index : Int) <;> rfl

/-- `set_.ContainsValue` and `set_.GetIndex` as written in set.go -/
theorem setContainsValue_tie (rank : α → α → Rank) (l : List α) (v : α) (fuel : Nat) (hl : IsInt64 ((l.length : Int) + 1))
    (hf : l.length < fuel) :
    Generated.setContainsValue rank v l fuel = setRes (fun b => (b, l)) (SetM.containsValue rank l v) := by
  unfold Generated.setContainsValue SetM.containsValue
  rw [findIndex_tie_fuel rank l v hl fuel hf, bindO_findRes, setRes_bindR]
  exact bindO_eq_bindR fun _ _ => rfl

theorem setGetIndex_tie (rank : α → α → Rank) (l : List α) (v : α) (fuel : Nat) (hl : IsInt64 ((l.length : Int) + 1))
    (hf : l.length < fuel) :
    Generated.setGetIndex rank v l fuel = setRes (fun (n : Nat) => ((n : Int), l)) (SetM.getIndex rank l v) := by
  unfold Generated.setGetIndex SetM.getIndex
  rw [findIndex_tie_fuel rank l v hl fuel hf, bindO_findRes, setRes_bindR]
  exact bindO_eq_bindR fun (index, found) _ => by cases found <;> rfl

/-! ### the bulk methods: one element at a time, in the operand's iteration order -/

/-- one value more in the set, one less to come -/
theorem add_le_add_succ {a b c : Nat} (h : a ≤ b + 1) : a + c ≤ b + (c + 1) :=
  Nat.add_right_comm b 1 c ▸ Nat.add_le_add_right h c

theorem addValue_length (rank : α → α → Rank) (l l' : List α) (v : α) (h : SetM.addValue rank l v = some (.ok l')) :
    l'.length ≤ l.length + 1 := by
  obtain ⟨⟨slot, found⟩, hf, h⟩ := SetM.bindR_eq_ok h
  cases found
  · simp only [Bool.false_eq_true, if_false, Seq.insertValue_eq,
      if_pos (findIndex_le rank l v slot false hf)] at h
    cases h
    rw [List.length_append, List.length_cons, ← Nat.add_assoc, ← List.length_append, List.take_append_drop]
    exact Nat.le_refl _
  · cases h; exact Nat.le_succ _

theorem removeValue_length (rank : α → α → Rank) (l l' : List α) (v : α) (h : SetM.removeValue rank l v = some (.ok l')) :
    l'.length ≤ l.length := by
  obtain ⟨⟨index, found⟩, _, h⟩ := SetM.bindR_eq_ok h
  cases found
  · cases h; exact Nat.le_refl _
  · simp only [if_true] at h
    cases hr : Seq.removeValue l (index : Int) with
    | error p => rw [hr] at h; cases h
    | ok q => rw [hr] at h; cases h; exact Seq.removeValue_length hr

theorem addValues_length (rank : α → α → Rank) (vs l l' : List α) (h : SetM.addValues rank l vs = some (.ok l')) :
    l'.length ≤ l.length + vs.length := by
  induction vs generalizing l with
  | nil => cases h; exact Nat.le_refl _
  | cons x xs ih =>
    obtain ⟨m, h1, h2⟩ := SetM.bindR_eq_ok h
    exact Nat.le_trans (ih m h2) (add_le_add_succ (addValue_length rank l m x h1))

theorem removeValues_length (rank : α → α → Rank) (vs l l' : List α) (h : SetM.removeValues rank l vs = some (.ok l')) :
    l'.length ≤ l.length := by
  induction vs generalizing l with
  | nil => cases h; exact Nat.le_refl _
  | cons x xs ih =>
    obtain ⟨m, h1, h2⟩ := SetM.bindR_eq_ok h
    exact Nat.le_trans (ih m h2) (removeValue_length rank l m x h1)

/-- `bound` is a size the set does not exceed on the way, so that the search stays within `int` -/
theorem setAddValues_loop_tie (rank : α → α → Rank) (values : List α) (bound : Nat) (hb : IsInt64 ((bound : Int) + 1)) :
    ∀ (it l : List α) (fuel : Nat), l.length + it.length ≤ bound → bound + it.length < fuel →
      Generated.setAddValues_loop1 rank values fuel it l = SetM.addValues rank l it :=
  bulkLoop_tie _ (SetM.addValues rank) (fun n l => l.length + n ≤ bound) bound (fun _ _ => rfl) fun f x xs l hlen hf ih => by
    have hl : l.length ≤ bound := Nat.le_of_add_right_le hlen
    show bindO (Generated.setAddValue rank x l f) _ = SetM.bindR (SetM.addValue rank l x) _
    rw [setAddValue_tie rank l x f (hb.succ_le hl) (Nat.lt_of_le_of_lt hl hf)]
    exact bindO_eq_bindR fun l' h => ih l' (Nat.le_trans (add_le_add_succ (addValue_length rank l l' x h)) hlen)

/-- `set_.AddValues` as written in set.go = `SetM.addValues` -/
theorem setAddValues_tie (rank : α → α → Rank) (l vs : List α) (fuel : Nat) (hb : IsInt64 ((l.length : Int) + (vs.length : Int) + 1))
    (hf : l.length + 2 * vs.length + 1 < fuel) :
    Generated.setAddValues rank vs l fuel = SetM.addValues rank l vs :=
  setAddValues_loop_tie rank vs (l.length + vs.length) hb vs l fuel (Nat.le_refl _) (by omega)

theorem setRemoveValues_loop_tie (rank : α → α → Rank) (values : List α) (bound : Nat) (hb : IsInt64 ((bound : Int) + 1)) :
    ∀ (it l : List α) (fuel : Nat), l.length ≤ bound → bound + it.length < fuel →
      Generated.setRemoveValues_loop1 rank values fuel it l = SetM.removeValues rank l it :=
  bulkLoop_tie _ (SetM.removeValues rank) (fun _ l => l.length ≤ bound) bound (fun _ _ => rfl) fun f x xs l hl hf ih => by
    show bindO (Generated.setRemoveValue rank x l f) _ = SetM.bindR (SetM.removeValue rank l x) _
    rw [setRemoveValue_tie rank l x f (hb.succ_le hl) (Nat.lt_of_le_of_lt hl hf)]
    exact bindO_eq_bindR fun l' h => ih l' (Nat.le_trans (removeValue_length rank l l' x h) hl)

/-- `set_.RemoveValues` as written in set.go = `SetM.removeValues` -/
theorem setRemoveValues_tie (rank : α → α → Rank) (l vs : List α) (fuel : Nat) (hb : IsInt64 ((l.length : Int) + 1))
    (hf : l.length + vs.length + 1 < fuel) :
    Generated.setRemoveValues rank vs l fuel = SetM.removeValues rank l vs :=
  setRemoveValues_loop_tie rank vs l.length hb vs l fuel (Nat.le_refl _) (Nat.lt_of_succ_lt hf)

/-- `set_.ContainsAny` / `set_.ContainsAll` as written in set.go -/
theorem setContainsAny_tie (rank : α → α → Rank) (l vs : List α) (fuel : Nat) (hl : IsInt64 ((l.length : Int) + 1))
    (hf : l.length + vs.length + 1 < fuel) :
    Generated.setContainsAny rank vs l fuel = setRes (fun b => (b, l)) (SetM.containsAny rank l vs) :=
  bulkLoop_tie _ (fun l it => setRes (fun b => (b, l)) (SetM.containsAny rank l it)) (fun _ s => s = l) l.length
    (fun _ _ => rfl) (fun f x xs s hs hf ih => by
      subst hs
      show bindO (Generated.setContainsValue rank x s f) _ = setRes _ (SetM.bindR (SetM.containsValue rank s x) _)
      rw [setContainsValue_tie rank s x f hl hf, bindO_setRes, setRes_bindR]
      refine bindO_eq_bindR fun b _ => ?_
      cases b
      · exact ih s rfl
      · rfl) vs l fuel rfl (Nat.lt_of_succ_lt hf)

theorem setContainsAll_tie (rank : α → α → Rank) (l vs : List α) (fuel : Nat) (hl : IsInt64 ((l.length : Int) + 1))
    (hf : l.length + vs.length + 1 < fuel) :
    Generated.setContainsAll rank vs l fuel = setRes (fun b => (b, l)) (SetM.containsAll rank l vs) :=
  bulkLoop_tie _ (fun l it => setRes (fun b => (b, l)) (SetM.containsAll rank l it)) (fun _ s => s = l) l.length
    (fun _ _ => rfl) (fun f x xs s hs hf ih => by
      subst hs
      show bindO (Generated.setContainsValue rank x s f) _ = setRes _ (SetM.bindR (SetM.containsValue rank s x) _)
      rw [setContainsValue_tie rank s x f hl hf, bindO_setRes, setRes_bindR]
      refine bindO_eq_bindR fun b _ => ?_
      cases b
      · rfl
      · exact ih s rfl) vs l fuel rfl (Nat.lt_of_succ_lt hf)

/-! ### the class functions: MakeFromSequence, And, Or, Sans, Xor (a set is the list of its members; the collator a new
    set gets is read off the source: `Make()` = the default one, `MakeWithCollator(first.GetCollator())` = the first operand's) -/

/-- the loop of `MakeFromSequence` is the loop of `AddValues` on the new set -/
theorem setMakeFromSequence_loop_eq (dflt rank : α → α → Rank) (values values' : List α) (fuel : Nat) :
    ∀ (l it : List α), Generated.setMakeFromSequence_loop1 dflt values fuel l rank it
      = Generated.setAddValues_loop1 rank values' fuel it l := by
  induction fuel with
  | zero => intro _ _; rfl
  | succ fuel ih =>
    intro l it
    unfold Generated.setMakeFromSequence_loop1 Generated.setAddValues_loop1
    -- the two bodies are the same text up to the recursive call
    simp only [ih]

/-- `setClass_.MakeFromSequence` as written in set.go = `SetM.makeFrom` with the default collator -/
theorem setMakeFromSequence_tie (rank : α → α → Rank) (vs : List α) (fuel : Nat) (hb : IsInt64 ((vs.length : Int) + 1))
    (hf : 2 * vs.length + 1 < fuel) :
    Generated.setMakeFromSequence rank vs fuel = SetM.makeFrom rank vs := by
  unfold Generated.setMakeFromSequence SetM.makeFrom
  rw [setMakeFromSequence_loop_eq rank rank vs vs]
  exact setAddValues_loop_tie rank vs vs.length hb vs [] fuel (Nat.le_of_eq (Nat.zero_add _))
    (Nat.two_mul _ ▸ Nat.lt_of_succ_lt hf)

/-- the fuel of a class function covers a search in a set of both operands and a pass over either -/
theorem fuel_class {k n fuel : Nat} (hk : k ≤ n) (h : 3 * n + 2 < fuel) : n + k < fuel := by omega

/-- `Or` and `Sans` begin by filling a new set with the first operand; it gets no longer than that -/
theorem bindO_fromFirst {γ : Type} (rank : α → α → Rank) (a b : List α) (fuel : Nat)
    (hb : IsInt64 ((a.length : Int) + (b.length : Int) + 1)) (hf : 3 * (a.length + b.length) + 2 < fuel)
    (K : List α → Option (Except Panic γ)) (K' : List α → SetM.R γ) (h : ∀ r, r.length ≤ a.length → K r = K' r) :
    bindO (Generated.setAddValues_loop1 rank a fuel a []) K = SetM.bindR (SetM.addValues rank [] a) K' := by
  rw [setAddValues_loop_tie rank a (a.length + b.length) hb a [] fuel
    (Nat.le_trans (Nat.le_of_eq (Nat.zero_add _)) (Nat.le_add_right _ _)) (fuel_class (Nat.le_add_right _ _) hf)]
  exact bindO_eq_bindR fun r hr => h r (Nat.zero_add a.length ▸ addValues_length rank a [] r hr)

/-- `setClass_.Or` as written in set.go = `SetM.setOr` under the first operand's collator -/
theorem setOr_tie (rank rank2 : α → α → Rank) (a b : List α) (fuel : Nat) (hb : IsInt64 ((a.length : Int) + (b.length : Int) + 1))
    (hf : 3 * (a.length + b.length) + 2 < fuel) :
    Generated.setOr rank rank2 a b fuel = SetM.setOr rank a b := by
  unfold Generated.setOr Generated.setAddValues SetM.setOr
  refine bindO_fromFirst rank a b fuel hb hf _ _ fun r hr => ?_
  rw [setAddValues_loop_tie rank b _ hb b r fuel (Nat.add_le_add_right hr _) (fuel_class (Nat.le_add_left _ _) hf)]
  exact bindO_pure _

/-- `setClass_.Sans` as written in set.go = `SetM.setSans` under the first operand's collator -/
theorem setSans_tie (rank rank2 : α → α → Rank) (a b : List α) (fuel : Nat) (hb : IsInt64 ((a.length : Int) + (b.length : Int) + 1))
    (hf : 3 * (a.length + b.length) + 2 < fuel) :
    Generated.setSans rank rank2 a b fuel = SetM.setSans rank a b := by
  unfold Generated.setSans Generated.setAddValues Generated.setRemoveValues SetM.setSans
  refine bindO_fromFirst rank a b fuel hb hf _ _ fun r hr => ?_
  rw [setRemoveValues_loop_tie rank b _ hb b r fuel (Nat.le_trans hr (Nat.le_add_right _ _))
    (fuel_class (Nat.le_add_left _ _) hf)]
  exact bindO_pure _

theorem setSans_length (rank : α → α → Rank) (a b r : List α) (h : SetM.setSans rank a b = some (.ok r)) : r.length ≤ a.length := by
  obtain ⟨m, h1, h2⟩ := SetM.bindR_eq_ok h
  exact Nat.le_trans (removeValues_length rank b m r h2) (Nat.zero_add a.length ▸ addValues_length rank a [] m h1)

/-- `setClass_.Xor` as written in set.go = `SetM.setXor`: `Sans(first, second)` under the first collator, `Sans(second, first)`
    under the second, the final `Or` under the first -/
theorem setXor_tie (rank rank2 : α → α → Rank) (a b : List α) (fuel : Nat) (hb : IsInt64 ((a.length : Int) + (b.length : Int) + 1))
    (hf : 3 * (a.length + b.length) + 2 < fuel) :
    Generated.setXor rank rank2 a b fuel = SetM.setXor rank rank2 a b := by
  unfold Generated.setXor SetM.setXor
  rw [setSans_tie rank rank2 a b fuel hb hf]
  refine bindO_eq_bindR fun x hx => ?_
  rw [setSans_tie rank2 rank b a fuel (Int.add_comm (a.length : Int) _ ▸ hb) (Nat.add_comm a.length _ ▸ hf)]
  refine bindO_eq_bindR fun y hy => ?_
  have hxy : x.length + y.length ≤ a.length + b.length :=
    Nat.add_le_add (setSans_length rank a b x hx) (setSans_length rank2 b a y hy)
  dsimp only
  rw [setOr_tie rank rank2 x y fuel (IsInt64.natCast_le (n := a.length + b.length + 1) hb (Nat.succ_le_succ hxy))
    (Nat.lt_of_le_of_lt (Nat.add_le_add_right (Nat.mul_le_mul_left 3 hxy) 2) hf)]
  exact bindO_pure _

/-- `setClass_.And` as written in set.go = `SetM.setAnd`: membership in the second operand is decided by the second
    operand's own collator, the result is built under the first one's -/
theorem setAnd_tie (rank rank2 : α → α → Rank) (a b : List α) (fuel : Nat) (hb : IsInt64 ((a.length : Int) + (b.length : Int) + 1))
    (hf : 2 * a.length + b.length + 1 < fuel) :
    Generated.setAnd rank rank2 a b fuel = SetM.setAnd rank rank2 a b :=
  -- the result and what is still to come of `a` are no longer than `a`
  bulkLoop_tie (fun f it r => Generated.setAnd_loop1 rank rank2 a b f r rank it) (SetM.andLoop rank rank2 b)
    (fun n r => r.length + n ≤ a.length) (a.length + b.length) (fun _ _ => rfl) (fun f x xs r hlen hf ih => by
      have hr : r.length ≤ a.length + b.length := Nat.le_trans (Nat.le_of_add_right_le hlen) (Nat.le_add_right _ _)
      show bindO (Generated.setContainsValue rank2 x b f) _ = SetM.bindR (SetM.containsValue rank2 b x) _
      rw [setContainsValue_tie rank2 b x f (hb.succ_le (Nat.le_add_left _ _)) (Nat.lt_of_add_left_lt hf), bindO_setRes]
      refine bindO_eq_bindR fun found _ => ?_
      cases found
      · exact ih r (Nat.le_of_succ_le hlen)
      · show bindO (Generated.setAddValue rank x r f) _ = SetM.bindR (SetM.addValue rank r x) _
        rw [setAddValue_tie rank r x f (hb.succ_le hr) (Nat.lt_of_le_of_lt hr hf)]
        exact bindO_eq_bindR fun r' h => ih r' (Nat.le_trans (add_le_add_succ (addValue_length rank r r' x h)) hlen))
    a [] fuel (Nat.le_of_eq (Nat.zero_add _)) (by omega)

end Tie
end CM
