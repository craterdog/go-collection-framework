/-
  C04 — Queue is a linearizable FIFO with bounded back-pressure under every schedule.

  Proved for every number of threads and every interleaving of the synchronisation steps,
  for clients that (a) do not let an AddValue overlap a CloseQueue (`addSendPanic` excluded) and
  (b) call RemoveAll only while no AddValue/RemoveHead is in flight (`quiescent`).  Outside
  (a)/(b) the code itself violates the property (recorded findings, counterexamples below).
  Data races are a property of the Go memory model: here only the lock-set argument is
  carried (see DESIGN.md C04); the run adds race-detector stress as supporting evidence.
-/
import CollectionModel.Lemmas.QueueLemmas
namespace CM
open CM.Q

variable {α : Type} [DecidableEq α]

/-- a trace whose events respect the client obligations (a)/(b) in the states they occur -/
def Q.validFrom : St α → List (Ev α) → Prop
  | _, [] => True
  | s, e :: es => e.isSendPanic = false ∧ (e.isRemoveAll = true → quiescent s) ∧
      (match step s e with | some s' => Q.validFrom s' es | none => True)

theorem init_inv (cap n : Nat) : QInv (init cap n : St α) := by
  simp [QInv, init, cnt, isClaimed, isSending, List.countP_replicate]

/-- **the accounting invariant holds in every reachable state** -/
theorem C04_inv_reachable : ∀ (es : List (Ev α)) (s s' : St α), QInv s → Q.validFrom s es → run s es = some s' → QInv s' := by
  intro es
  induction es with
  | nil => intro s s' hs _ h; cases h; exact hs
  | cons e es ih =>
    intro s s' hs ⟨hp, hq, hrest⟩ h
    simp only [run] at h
    cases hst : step s e with
    | none => rw [hst] at h; cases h
    | some s1 =>
      rw [hst] at h hrest
      exact ih s1 s' (step_inv s s1 e hs hq hp hst) hrest h

theorem validFrom_of_plain : ∀ (es : List (Ev α)) (s : St α),
    es.all (fun e => !e.isSendPanic && !e.isRemoveAll) = true → Q.validFrom s es := by
  intro es
  induction es with
  | nil => intros; trivial
  | cons e es ih =>
    intro s h
    simp only [List.all_cons, Bool.and_eq_true, Bool.not_eq_true'] at h
    refine ⟨h.1.1, fun hr => (by rw [h.1.2] at hr; cases hr), ?_⟩
    cases step s e with
    | none => trivial
    | some s1 => exact ih s1 h.2

/-- **a consumer that claimed a token always finds a value**: RemoveHead never panics on an empty list -/
theorem C04_pop_never_fails (s : St α) (hs : QInv s) (t : Nat) : step s (.remLockPanic t) = none := by
  refine Option.eq_none_iff_forall_ne_some.mpr fun s' h => ?_
  obtain ⟨⟨ht, hv⟩, -⟩ := step_iff.mp h
  exact claimed_vals_ne_nil hs ht hv

/-- **one FIFO order for all threads**: the value a RemoveHead returns is the oldest appended
    value not yet removed, and what remains is exactly the appended values minus the removed
    ones, in order (nothing invented, lost, duplicated or reordered) -/
theorem C04_fifo (s s' : St α) (hs : QInv s) (t : Nat) (v : α) (h : step s (.remLock t v) = some s') :
    s.appended = s.popped ++ v :: s'.vals ∧ s'.popped = s.popped ++ [v] := by
  obtain ⟨xs, ⟨-, hv⟩, rfl⟩ := step_iff.mp h
  exact ⟨by rw [hs.2.2, hv], rfl⟩

/-- **RemoveHead reports ok=false only once the queue is closed and drained**: no token is
    left, and every value still in the list belongs to a consumer that already holds its token
    or to an AddValue that has not returned -/
theorem C04_closed_drained (s s' : St α) (hs : QInv s) (t : Nat) (h : step s (.remRecv t false) = some s') :
    s.closed = true ∧ s.tokens = 0 ∧ s.vals.length = cnt isClaimed s + cnt isSending s := by
  obtain ⟨⟨-, h0, hc⟩, -⟩ := step_iff.mp h
  exact ⟨hc, h0, by rw [hs.1, h0, Nat.zero_add]⟩

/-- **bounded back-pressure**: when an AddValue returns, at most `capacity` completed additions are unclaimed -/
theorem C04_backpressure (s s' : St α) (t : Nat) (h : step s (.addSend t) = some s') : s'.tokens ≤ s'.cap := by
  obtain ⟨⟨-, -, hlt⟩, rfl⟩ := step_iff.mp h
  exact hlt

/-- **GetSize never exceeds the capacity; AsArray reports only values added and not yet
    removed, in FIFO order** -/
theorem C04_observers (s s' : St α) (hs : QInv s) (t : Nat) :
    (∀ n, step s (.sizeLock t n) = some s' → n ≤ s.cap) ∧
    (∀ l, step s (.arrayLock t l) = some s' → s.appended = s.popped ++ l) := by
  constructor
  · intro n h
    obtain ⟨⟨-, rfl⟩, -⟩ := step_iff.mp h
    exact hs.2.1
  · intro l h
    obtain ⟨⟨-, rfl⟩, -⟩ := step_iff.mp h
    exact hs.2.2

/-- effect of an event on the abstract FIFO queue (linearisation points: the locked append
    of AddValue, the locked pop of RemoveHead, the locked section of RemoveAll) -/
def Q.specStep (q : List α) : Ev α → List α
  | .addLock _ => q          -- the appended value is named by the thread's program counter
  | .remLock _ _ => q.tail
  | .removeAllLock _ => []
  | _ => q

/-- **linearizability**: every step acts on the list exactly as the atomic FIFO specification
    acts at that step's linearisation point, which lies between the call and the return of
    the operation it belongs to -/
theorem C04_linearizable (s s' : St α) (e : Ev α) (h : step s e = some s') :
    (match e with
     | .addLock t => ∃ v, s.threads[t]? = some (.addLock v) ∧ s'.vals = s.vals ++ [v]
     | .remLock _ v => s.vals = v :: s'.vals
     | .removeAllLock _ => s'.vals = []
     | _ => s'.vals = s.vals) := by
  cases e with
  | addLock t => obtain ⟨v, ht, rfl⟩ := step_iff.mp h; exact ⟨v, ht, rfl⟩
  | remLock t v => obtain ⟨xs, ⟨-, hv⟩, rfl⟩ := step_iff.mp h; exact hv
  | remRecv t ok => cases ok <;> exact (congrArg St.vals (step_iff.mp h).2).trans rfl
  | _ => exact (congrArg St.vals (step_iff.mp h).2).trans rfl

/-- **recorded finding D04b**: a RemoveAll between a consumer's token receipt and its pop leaves
    the consumer with an empty list: RemoveHead panics -/
theorem C04_counterexample_removeall :
    ∃ s : St Nat, run (init 2 3) [.call 0 (.addLock 7), .addLock 0, .addSend 0, .call 1 .remRecv, .remRecv 1 true,
        .call 2 .removeAllLock, .removeAllLock 2] = some s ∧ (step s (.remLockPanic 1)).isSome = true := by
  refine ⟨_, rfl, ?_⟩
  decide

/-- **recorded finding D04c**: an AddValue parked on a full queue (or merely between its append
    and its send) dies with "send on closed channel" when CloseQueue runs first -/
theorem C04_counterexample_close_during_add :
    (run (init 1 2 : St Nat) [.call 0 (.addLock 7), .addLock 0, .call 1 .closeLock, .closeLock 1, .addSendPanic 0]).isSome = true := by
  decide

example : QInv (init 2 3 : St Nat) := init_inv 2 3

end CM
