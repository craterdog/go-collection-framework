/- On a strictly sorted list, `AddValue` is ordered insertion (`ins`), `RemoveValue` is a filter,
   and every other Set operation is a composition of the two.  First the theory of `ins` / `insAll`
   (no `Inhabited` needed); then the binary search: one iteration (`findLoop_succ`, also what
   Tie/LoopsSet unfolds), its window invariant (`findLoop_spec`), the answer (`findIndex_spec`,
   `findIndex_found`); then the closed form of each operation. -/
import CollectionModel.Model.SetM
import CollectionModel.Lemmas.SeqLemmas
namespace CM

namespace SetM
open CM.Seq CM.SeqSpec

variable {α : Type}

theorem bindR_ok {β γ : Type} (b : β) (f : β → R γ) : bindR (some (.ok b)) f = f b := rfl

theorem bindR_eq_ok {β γ : Type} {x : R β} {f : β → R γ} {c : γ} (h : bindR x f = some (.ok c)) :
    ∃ b, x = some (.ok b) ∧ f b = some (.ok c) := by
  cases x with
  | none => cases h
  | some e => cases e with
    | error p => cases h
    | ok b => exact ⟨b, rfl, h⟩

/-- strictly ascending under the collator -/
def SSorted (rank : α → α → Rank) (l : List α) : Prop := l.Pairwise (fun a b => rank a b = .lt)

theorem ssorted_nil (rank : α → α → Rank) : SSorted rank ([] : List α) := List.Pairwise.nil

theorem ssorted_filter {rank : α → α → Rank} (l : List α) (p : α → Bool) (hs : SSorted rank l) :
    SSorted rank (l.filter p) := List.Pairwise.filter p hs

/-- membership up to rank-equivalence -/
def mem (rank : α → α → Rank) (l : List α) (v : α) : Bool := l.any (fun x => rank v x == .eq)

theorem mem_iff {rank : α → α → Rank} {l : List α} {v : α} :
    mem rank l v = true ↔ ∃ x ∈ l, rank v x = .eq := by
  simp [mem]

theorem mem_false_iff {rank : α → α → Rank} {l : List α} {v : α} :
    mem rank l v = false ↔ ∀ x ∈ l, rank v x ≠ .eq := by
  simp [mem]

theorem mem_congr {rank : α → α → Rank} (h : TotalPreorder rank) (l : List α) {x y : α}
    (e : rank x y = .eq) : mem rank l x = mem rank l y := by
  simp only [mem, h.congr_left e]

section
variable {rank : α → α → Rank} (h : TotalPreorder rank) {l : List α} (hs : SSorted rank l) {v : α}
  {i : Nat} (hi : i < l.length)
include h hs

theorem lt_drop (hr : rank v l[i] = .lt) : ∀ x ∈ l.drop i, rank v x = .lt := by
  have hp := List.Pairwise.sublist (List.drop_sublist i l) hs
  rw [List.drop_eq_getElem_cons hi] at hp ⊢
  intro x hx
  rcases List.mem_cons.mp hx with rfl | hx
  · exact hr
  · exact h.lt_trans hr ((List.pairwise_cons.mp hp).1 x hx)

theorem gt_take (hr : rank v l[i] = .gt) : ∀ x ∈ l.take (i + 1), rank v x = .gt := by
  have hp := List.Pairwise.sublist (List.take_sublist (i + 1) l) hs
  rw [List.take_succ_eq_append_getElem hi] at hp ⊢
  intro x hx
  rcases List.mem_append.mp hx with hx | hx
  · have hxi : rank x l[i] = .lt := (List.pairwise_append.mp hp).2.2 x hx _ (by simp)
    exact (h.gt_iff_lt x v).mpr (h.lt_trans hxi ((h.gt_iff_lt _ _).mp hr))
  · rw [List.mem_singleton.mp hx]; exact hr
end

/-- insert `v` before the first value it does not rank above, unless that value ranks equal.
    `fun_induction ins` numbers the arms in this order: `case1` is `[]`; `case2`, `case3`, `case4`
    are a head `y` with `hv : rank v y = .lt`, `.eq`, `.gt`, the last with the hypothesis for the tail -/
def ins (rank : α → α → Rank) (v : α) : List α → List α
  | [] => [v]
  | x :: xs => match rank v x with
    | .lt => v :: x :: xs
    | .eq => x :: xs
    | .gt => x :: ins rank v xs

def insAll (rank : α → α → Rank) (l vs : List α) : List α := vs.foldl (fun l v => ins rank v l) l

section ins
variable {rank : α → α → Rank}

theorem ins_sub {v x : α} {l : List α} (hx : x ∈ ins rank v l) : x = v ∨ x ∈ l := by
  fun_induction ins rank v l with
  | case1 => simpa using hx
  | case2 y ys hv => simpa using hx
  | case3 y ys hv => exact .inr hx
  | case4 y ys hv ih =>
    rcases List.mem_cons.mp hx with rfl | hx
    · simp
    · exact (ih hx).imp_right (List.mem_cons_of_mem y)

theorem ins_keeps {v x : α} {l : List α} (hx : x ∈ l) : x ∈ ins rank v l := by
  fun_induction ins rank v l with
  | case1 => cases hx
  | case2 y ys hv => exact List.mem_cons_of_mem v hx
  | case3 y ys hv => exact hx
  | case4 y ys hv ih =>
    rcases List.mem_cons.mp hx with rfl | hx
    · exact List.mem_cons_self
    · exact List.mem_cons_of_mem y (ih hx)

theorem ins_sorted (h : TotalPreorder rank) (v : α) {l : List α} (hs : SSorted rank l) :
    SSorted rank (ins rank v l) := by
  fun_induction ins rank v l with
  | case1 => exact List.pairwise_singleton _ v
  | case2 y ys hv =>
    refine List.pairwise_cons.mpr ⟨fun x hx => ?_, hs⟩
    rcases List.mem_cons.mp hx with rfl | hx
    · exact hv
    · exact h.lt_trans hv ((List.pairwise_cons.mp hs).1 x hx)
  | case3 y ys hv => exact hs
  | case4 y ys hv ih =>
    have hy := List.pairwise_cons.mp hs
    refine List.pairwise_cons.mpr ⟨fun x hx => ?_, ih hy.2⟩
    rcases ins_sub hx with rfl | hx
    · exact (h.gt_iff_lt _ _).mp hv
    · exact hy.1 x hx

theorem mem_ins (h : TotalPreorder rank) (v x : α) (l : List α) :
    mem rank (ins rank v l) x = (mem rank l x || rank x v == .eq) := by
  fun_induction ins rank v l with
  | case1 => simp [mem]
  | case2 y ys hv => simp [mem, Bool.or_comm]
  | case3 y ys hv =>
    cases hx : rank x v == .eq with
    | false => simp
    | true => simp [mem, h.eq_trans (by simpa using hx) hv]
  | case4 y ys hv ih => simp only [mem] at ih; simp [mem, ih, Bool.or_assoc]

theorem ins_of_mem (h : TotalPreorder rank) {v : α} {l : List α} (hs : SSorted rank l)
    (hm : mem rank l v = true) : ins rank v l = l := by
  fun_induction ins rank v l with
  | case1 => simp [mem] at hm
  | case2 y ys hv =>
    -- `v < y < everything else`, so `v` is not a member
    obtain ⟨z, hz, he⟩ := mem_iff.mp hm
    rcases List.mem_cons.mp hz with rfl | hz
    · rw [hv] at he; cases he
    · rw [h.lt_trans hv ((List.pairwise_cons.mp hs).1 z hz)] at he; cases he
  | case3 y ys hv => rfl
  | case4 y ys hv ih =>
    have hm : (rank v y == .eq || mem rank ys v) = true := hm
    rw [hv] at hm
    rw [ih (List.pairwise_cons.mp hs).2 hm]

/-- the slot `findIndex` reports for a non-member is where `ins` puts it -/
theorem ins_split {v : α} (b : List α) (hb : ∀ x ∈ b, rank v x = .lt) :
    ∀ a : List α, (∀ x ∈ a, rank v x = .gt) → ins rank v (a ++ b) = a ++ v :: b := by
  intro a
  induction a with
  | nil =>
    intro _
    cases b with
    | nil => rfl
    | cons y ys => simp [ins, hb y (by simp)]
  | cons x a ih =>
    intro ha
    simp [ins, ha x (by simp), ih (fun y hy => ha y (by simp [hy]))]

theorem ins_perm {v : α} {l : List α} (hm : mem rank l v = false) : (ins rank v l).Perm (v :: l) := by
  fun_induction ins rank v l with
  | case1 => exact .refl _
  | case2 y ys hv => exact .refl _
  | case3 y ys hv => exact absurd hv (mem_false_iff.mp hm y (by simp))
  | case4 y ys hv ih =>
    exact ((ih (mem_false_iff.mpr fun x hx => mem_false_iff.mp hm x (by simp [hx]))).cons y).trans
      (List.Perm.swap v y ys)

end ins

/-- `r` is what adding the values `vs` to the set `l` may leave -/
structure AddsSpec (rank : α → α → Rank) (l vs r : List α) : Prop where
  sorted : SSorted rank r
  sub : ∀ x ∈ r, x ∈ l ∨ x ∈ vs
  keeps : ∀ x ∈ l, x ∈ r
  covers : ∀ x ∈ vs, mem rank r x = true

theorem AddsSpec.sub_nil {rank : α → α → Rank} {vs r : List α} (sp : AddsSpec rank [] vs r) :
    ∀ x ∈ r, x ∈ vs :=
  fun x hx => (sp.sub x hx).resolve_left (List.not_mem_nil)

/-- each value ranks above everything before it, so ordered insertion appends it -/
theorem insAll_append_sorted {rank : α → α → Rank} (h : TotalPreorder rank) :
    ∀ (rest l : List α), SSorted rank (l ++ rest) → insAll rank l rest = l ++ rest := by
  intro rest
  induction rest with
  | nil => intro l _; simp [insAll]
  | cons v rest ih =>
    intro l hsl
    have hgt : ∀ x ∈ l, rank v x = .gt := fun x hx =>
      (h.gt_iff_lt x v).mpr ((List.pairwise_append.mp hsl).2.2 x hx v (by simp))
    have hv := ins_split (rank := rank) (v := v) [] (by simp) l hgt
    rw [List.append_nil] at hv
    show insAll rank (ins rank v l) rest = _
    rw [hv, ih (l ++ [v]) (by simpa using hsl)]; simp

theorem mem_insAll {rank : α → α → Rank} (h : TotalPreorder rank) (x : α) : ∀ vs l : List α,
    mem rank (insAll rank l vs) x = (mem rank l x || mem rank vs x) := by
  intro vs
  induction vs with
  | nil => intro l; simp [insAll, mem]
  | cons v vs ih =>
    intro l
    have := ih (ins rank v l)
    simp only [insAll, List.foldl_cons] at this ⊢
    rw [this, mem_ins h]
    simp [mem, Bool.or_assoc]

theorem insAll_spec {rank : α → α → Rank} (h : TotalPreorder rank) : ∀ (vs l : List α),
    SSorted rank l → AddsSpec rank l vs (insAll rank l vs) := by
  intro vs
  induction vs with
  | nil => exact fun l hs => ⟨hs, fun _ hx => Or.inl hx, fun _ hx => hx, by simp⟩
  | cons v vs ih =>
    intro l hs
    have sp := ih (ins rank v l) (ins_sorted h v hs)
    refine ⟨sp.sorted, fun x hx => ?_, fun x hx => sp.keeps x (ins_keeps hx), fun x hx => ?_⟩
    · rcases sp.sub x hx with hx | hx
      · rcases ins_sub hx with rfl | hx <;> simp [*]
      · simp [hx]
    · rw [mem_insAll h, mem_iff.mpr ⟨x, hx, h.refl x⟩, Bool.or_true]

/-- in a strictly sorted list only position `i` holds a value rank-equal to `l[i]` -/
theorem eraseIdx_eq_filter {rank : α → α → Rank} (h : TotalPreorder rank) {v : α} (l : List α) :
    ∀ (i : Nat) (hi : i < l.length), SSorted rank l → rank v l[i] = .eq →
      l.eraseIdx i = l.filter (fun x => rank v x != .eq) := by
  induction l with
  | nil => intro _ hi; cases hi
  | cons x xs ih =>
    intro i hi hs he
    have hs' := List.pairwise_cons.mp hs
    cases i with
    | zero =>
      have he : rank v x = .eq := he
      have : xs.filter (fun x => rank v x != .eq) = xs :=
        List.filter_eq_self.mpr fun y hy => by simp [h.congr_left he y, hs'.1 y hy]
      simp [this, he]
    | succ i =>
      have hi : i < xs.length := Nat.lt_of_succ_lt_succ hi
      have he : rank v xs[i] = .eq := he
      have hx : rank v x = .gt :=
        (h.gt_iff_lt _ _).mpr ((h.congr_right he x).trans (hs'.1 _ (List.getElem_mem hi)))
      simp [hx, ih i hi hs'.2 he]

theorem all_ne_eq_not_mem {rank : α → α → Rank} (h : TotalPreorder rank) (vs : List α) (x : α) :
    vs.all (fun v => rank v x != .eq) = !mem rank vs x := by
  simp only [mem, List.not_any_eq_all_not]
  congr 1; funext v
  rw [h.mirror x v]; cases rank x v <;> rfl

theorem mem_filter {rank : α → α → Rank} (p : α → Bool) (x : α) (hp : ∀ y, rank x y = .eq → p y = p x) :
    ∀ l : List α, mem rank (l.filter p) x = (mem rank l x && p x) := by
  intro l
  induction l with
  | nil => simp [mem]
  | cons y ys ih =>
    simp only [mem] at ih ⊢
    cases he : rank x y == .eq with
    | true => cases hy : p y <;> simp [hy, he, ih, ← hp y (by simpa using he)]
    | false => cases hy : p y <;> simp [hy, he, ih]

variable [Inhabited α]

/-! The window searched is `first = lo + 1`, `last = lo + size`.  A non-empty one is `d` positions, Go's `middle`
    `lo + d + 1` and `e` more; nothing proved here depends on `d = size / 2`. -/

theorem window_split {size : Nat} (h : size ≠ 0) : ∃ d e, size = d + 1 + e ∧ size / 2 = d :=
  ⟨size / 2, size - (size / 2 + 1),
    (Nat.add_sub_cancel' (Nat.div_lt_self (Nat.pos_of_ne_zero h) Nat.one_lt_two)).symm, rfl⟩

theorem probe_sub (lo d : Nat) : lo + d + 1 - (lo + 1) = d := by rw [Nat.add_right_comm, Nat.add_sub_cancel_left]

theorem findLoop_succ (rank : α → α → Rank) (l : List α) (v : α) (f lo d e : Nat) (hd : (d + 1 + e) / 2 = d) :
    findLoop rank l v (f + 1) (lo + 1) (lo + (d + 1 + e)) (d + 1 + e) =
      match getValue l ((lo + d + 1 : Nat) : Int) with
      | .error p => some (.error p)
      | .ok c =>
        match rank v c with
        | .lt => findLoop rank l v f (lo + 1) (lo + d) d
        | .eq => some (.ok (lo + d + 1, true))
        | .gt => findLoop rank l v f (lo + d + 1 + 1) (lo + d + 1 + e) e := by
  have nonempty : d + 1 + e ≠ 0 := Nat.succ_ne_zero (d + e) ∘ (Nat.add_right_comm d e 1).trans
  rw [findLoop, if_neg nonempty, hd, Nat.add_right_comm lo 1 d, ← Nat.add_assoc lo, ← Nat.add_assoc lo]
  simp only [Nat.add_sub_cancel, Nat.add_sub_cancel_left, probe_sub]
  rfl

/-- the window invariant of the binary search: everything before `lo` ranks below the probe,
    everything from `lo + size` on above it -/
theorem findLoop_spec (rank : α → α → Rank) (h : TotalPreorder rank) (l : List α) (v : α)
    (hs : SSorted rank l) :
    ∀ fuel lo size, size < fuel → lo + size ≤ l.length →
      (∀ x ∈ l.take lo, rank v x = .gt) → (∀ x ∈ l.drop (lo + size), rank v x = .lt) →
      ∃ k b, findLoop rank l v fuel (lo + 1) (lo + size) size = some (.ok (k, b)) ∧
        (b = true → 1 ≤ k ∧ k ≤ l.length ∧ rank v (l.getD (k-1) default) = .eq) ∧
        (b = false → k ≤ l.length ∧ (∀ x ∈ l.take k, rank v x = .gt) ∧
          (∀ x ∈ l.drop k, rank v x = .lt)) := by
  intro fuel
  induction fuel with
  | zero => intro _ _ hf; cases hf
  | succ f ih =>
    intro lo size hf hl hlo hhi
    by_cases hz : size = 0
    · subst hz
      exact ⟨lo, false, by rw [findLoop, if_pos rfl]; rfl, nofun, fun _ => ⟨hl, hlo, hhi⟩⟩
    · obtain ⟨d, e, rfl, hd⟩ := window_split hz
      rw [← Nat.add_assoc, ← Nat.add_assoc] at hl hhi
      rw [Nat.add_right_comm d 1 e] at hf
      have hf : d + e < f := Nat.lt_of_succ_lt_succ hf
      have middle_lt : lo + d < l.length := Nat.lt_of_lt_of_le (Nat.lt_succ_self _) (Nat.le_trans (Nat.le_add_right _ e) hl)
      have at_middle : l.getD (lo + d) default = l[lo + d] := (List.getElem_eq_getD default).symm
      rw [findLoop_succ rank l v f lo d e hd, getValue, toZeroBased_natCast (Nat.le_add_left 1 _) middle_lt]
      dsimp only
      rw [Nat.add_sub_cancel, at_middle]
      cases hr : rank v l[lo + d] with
      | eq => exact ⟨lo + d + 1, true, rfl, fun _ => ⟨Nat.le_add_left 1 _, middle_lt, by rwa [Nat.add_sub_cancel, at_middle]⟩, nofun⟩
      | lt =>
        exact ih lo d (Nat.lt_of_le_of_lt (Nat.le_add_right d e) hf) (Nat.le_of_lt middle_lt) hlo
          (lt_drop h hs middle_lt hr)
      | gt =>
        exact ih (lo + d + 1) e (Nat.lt_of_le_of_lt (Nat.le_add_left e d) hf) hl
          (gt_take h hs middle_lt hr) hhi

theorem findIndex_spec (rank : α → α → Rank) (h : TotalPreorder rank) (l : List α) (v : α)
    (hs : SSorted rank l) :
    ∃ k b, findIndex rank l v = some (.ok (k, b)) ∧
      (b = true → 1 ≤ k ∧ k ≤ l.length ∧ rank v (l.getD (k-1) default) = .eq) ∧
      (b = false → k ≤ l.length ∧ (∀ x ∈ l.take k, rank v x = .gt) ∧ (∀ x ∈ l.drop k, rank v x = .lt)) := by
  have := findLoop_spec rank h l v hs (l.length + 1) 0 l.length (Nat.lt_succ_self _)
    (Nat.le_of_eq (Nat.zero_add _)) nofun (by simp)
  rwa [Nat.zero_add, Nat.zero_add] at this

/-- a hit is a witness of membership; a window that has closed leaves only values that rank
    strictly below or above the probe -/
theorem findIndex_found (rank : α → α → Rank) (h : TotalPreorder rank) (l : List α) (v : α)
    (hs : SSorted rank l) :
    ∃ k, findIndex rank l v = some (.ok (k, mem rank l v)) ∧
      (mem rank l v = true → 1 ≤ k ∧ k ≤ l.length ∧ rank v (l.getD (k-1) default) = .eq) ∧
      (mem rank l v = false → k ≤ l.length ∧ (∀ x ∈ l.take k, rank v x = .gt) ∧ (∀ x ∈ l.drop k, rank v x = .lt)) := by
  obtain ⟨k, b, hf, ht, hn⟩ := findIndex_spec rank h l v hs
  have hb : b = mem rank l v := by
    cases b with
    | true =>
      obtain ⟨h1, h2, he⟩ := ht rfl
      have hk : k - 1 < l.length := Nat.lt_of_lt_of_le (Nat.sub_one_lt_of_lt h1) h2
      rw [← List.getElem_eq_getD (h := hk)] at he
      exact (mem_iff.mpr ⟨_, List.getElem_mem hk, he⟩).symm
    | false =>
      obtain ⟨_, hlo, hhi⟩ := hn rfl
      refine (mem_false_iff.mpr fun x hx => ?_).symm
      rw [← List.take_append_drop k l] at hx
      rcases List.mem_append.mp hx with hx | hx
      · simp [hlo x hx]
      · simp [hhi x hx]
  subst hb
  exact ⟨k, hf, ht, hn⟩

theorem addValue_eq (rank : α → α → Rank) (h : TotalPreorder rank) (l : List α) (v : α)
    (hs : SSorted rank l) : addValue rank l v = some (.ok (ins rank v l)) := by
  obtain ⟨k, hf, _, hn⟩ := findIndex_found rank h l v hs
  rw [addValue, hf]
  cases hm : mem rank l v with
  | true => rw [ins_of_mem h hs hm]; rfl
  | false =>
    obtain ⟨hk, hlo, hhi⟩ := hn hm
    have := ins_split (l.drop k) hhi (l.take k) hlo
    rw [List.take_append_drop] at this
    rw [this]
    exact congrArg some ((insertValue_eq l k v).trans (if_pos hk))

theorem addValues_eq (rank : α → α → Rank) (h : TotalPreorder rank) : ∀ (vs l : List α),
    SSorted rank l → addValues rank l vs = some (.ok (insAll rank l vs)) := by
  intro vs
  induction vs with
  | nil => intro _ _; rfl
  | cons v vs ih =>
    intro l hs
    simp only [addValues, addValue_eq rank h l v hs, bindR_ok]
    exact ih _ (ins_sorted h v hs)

theorem removeValue_eq (rank : α → α → Rank) (h : TotalPreorder rank) (l : List α) (v : α)
    (hs : SSorted rank l) :
    removeValue rank l v = some (.ok (l.filter (fun x => rank v x != .eq))) := by
  obtain ⟨k, hf, ht, _⟩ := findIndex_found rank h l v hs
  rw [removeValue, hf]
  cases hm : mem rank l v with
  | true =>
    obtain ⟨h1, h2, he⟩ := ht hm
    have hk : k - 1 < l.length := Nat.lt_of_lt_of_le (Nat.sub_one_lt_of_lt h1) h2
    show some ((Seq.removeValue l (k : Int)).map (·.2)) = _
    rw [Seq.removeValue_eq, toZeroBased_natCast h1 h2,
      ← eraseIdx_eq_filter h l (k - 1) hk hs (by rw [List.getElem_eq_getD default]; exact he)]
    rfl
  | false =>
    rw [List.filter_eq_self.mpr fun x hx => by simpa using mem_false_iff.mp hm x hx]
    rfl

theorem removeValues_eq (rank : α → α → Rank) (h : TotalPreorder rank) :
    ∀ (vs l : List α), SSorted rank l →
      removeValues rank l vs =
        some (.ok (l.filter (fun x => vs.all (fun v => rank v x != .eq)))) := by
  intro vs
  induction vs with
  | nil =>
    intro l _
    have : l.filter (fun _ => true) = l := List.filter_eq_self.mpr (by simp)
    simp [removeValues, this]
  | cons v vs ih =>
    intro l hs
    simp only [removeValues, removeValue_eq rank h l v hs, bindR_ok]
    rw [ih _ (ssorted_filter l _ hs), List.filter_filter]
    congr 3
    funext x
    simp [Bool.and_comm]

theorem containsValue_eq (rank : α → α → Rank) (h : TotalPreorder rank) (l : List α) (v : α)
    (hs : SSorted rank l) : containsValue rank l v = some (.ok (mem rank l v)) := by
  obtain ⟨k, hf, _, _⟩ := findIndex_found rank h l v hs
  rw [containsValue, hf]; rfl

theorem containsAny_eq (rank : α → α → Rank) (h : TotalPreorder rank) (l : List α) (hs : SSorted rank l) :
    ∀ vs : List α, containsAny rank l vs = some (.ok (vs.any (fun v => mem rank l v))) := by
  intro vs
  induction vs with
  | nil => simp [containsAny]
  | cons v vs ih =>
    simp only [containsAny, containsValue_eq rank h l v hs, bindR_ok, List.any_cons]
    cases mem rank l v <;> simp [ih]

theorem containsAll_eq (rank : α → α → Rank) (h : TotalPreorder rank) (l : List α) (hs : SSorted rank l) :
    ∀ vs : List α, containsAll rank l vs = some (.ok (vs.all (fun v => mem rank l v))) := by
  intro vs
  induction vs with
  | nil => simp [containsAll]
  | cons v vs ih =>
    simp only [containsAll, containsValue_eq rank h l v hs, bindR_ok, List.all_cons]
    cases mem rank l v <;> simp [ih]

theorem getIndex_spec (rank : α → α → Rank) (h : TotalPreorder rank) (l : List α) (v : α)
    (hs : SSorted rank l) :
    ∃ k, getIndex rank l v = some (.ok k) ∧
      (mem rank l v = true → 1 ≤ k ∧ k ≤ l.length ∧ rank v (l.getD (k-1) default) = .eq) ∧
      (mem rank l v = false → k = 0) := by
  obtain ⟨k, hf, ht, _⟩ := findIndex_found rank h l v hs
  exact ⟨if mem rank l v then k else 0, by rw [getIndex, hf]; rfl,
    fun hm => by rw [if_pos hm]; exact ht hm, fun hm => by rw [hm]; rfl⟩

theorem andLoop_eq (rank rank2 : α → α → Rank) (h : TotalPreorder rank) (h2 : TotalPreorder rank2)
    (second : List α) (hsec : SSorted rank2 second) (vs : List α) :
    ∀ result : List α, SSorted rank result →
      andLoop rank rank2 second result vs =
        some (.ok (insAll rank result (vs.filter (mem rank2 second)))) := by
  induction vs with
  | nil => intro _ _; rfl
  | cons v vs ih =>
    intro result hs
    simp only [andLoop, containsValue_eq rank2 h2 second v hsec, bindR_ok, List.filter_cons]
    cases mem rank2 second v with
    | false => exact ih result hs
    | true =>
      simp only [if_true, addValue_eq rank h result v hs]
      exact ih _ (ins_sorted h v hs)

theorem setOr_eq (rank : α → α → Rank) (h : TotalPreorder rank) (a b : List α) :
    setOr rank a b = some (.ok (insAll rank [] (a ++ b))) := by
  have sa := (insAll_spec h a [] (ssorted_nil rank)).sorted
  simp only [setOr, addValues_eq rank h a [] (ssorted_nil rank), bindR_ok, addValues_eq rank h b _ sa]
  simp [insAll]

theorem setSans_eq (rank : α → α → Rank) (h : TotalPreorder rank) (a b : List α) :
    setSans rank a b = some (.ok ((insAll rank [] a).filter (fun x => !mem rank b x))) := by
  simp only [setSans, addValues_eq rank h a [] (ssorted_nil rank), bindR_ok,
    removeValues_eq rank h b _ (insAll_spec h a [] (ssorted_nil rank)).sorted, all_ne_eq_not_mem h]

end SetM
end CM
