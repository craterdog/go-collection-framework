/-
  The parts of which the potentials of the Fork, Split and Split→Join networks (Props/C06Term*.lean) are sums,
  each with the lemma saying which step lowers it: `feedPot` (feeder and input queue), `bufPot` and `rdPot`
  (buffers and readers, sums over the outputs, `sumTo`), the weight of a closing loop, and `move_lt` for the
  steps that pass work from one part to the next.
-/
import CollectionModel.Lemmas.ClosingLoop
import CollectionModel.Lemmas.Steps
namespace CM
open CM.Pipes

variable {α : Type}

def sumTo (n : Nat) (f : Nat → Nat) : Nat := ((List.range n).map f).sum

theorem sumTo_succ (n : Nat) (f : Nat → Nat) : sumTo (n + 1) f = sumTo n f + f n := by
  simp [sumTo, List.range_succ]

theorem sumTo_congr (n : Nat) (f g : Nat → Nat) (h : ∀ k, k < n → f k = g k) : sumTo n f = sumTo n g := by
  induction n with
  | zero => rfl
  | succ n ih => rw [sumTo_succ, sumTo_succ, ih (fun k hk => h k (Nat.lt_succ_of_lt hk)), h n (Nat.lt_succ_self n)]

theorem sumTo_upd (n : Nat) (f g : Nat → Nat) (k : Nat) (hk : k < n) (h : ∀ j, j ≠ k → g j = f j) :
    sumTo n g + f k = sumTo n f + g k := by
  induction n with
  | zero => cases hk
  | succ n ih =>
    rw [sumTo_succ, sumTo_succ]
    by_cases hkn : k = n
    · subst hkn
      rw [sumTo_congr k g f fun j hj => h j (Nat.ne_of_lt hj)]
      exact Nat.add_right_comm ..
    · rw [h n fun e => hkn e.symm, Nat.add_right_comm, ih (Nat.lt_of_le_of_ne (Nat.le_of_lt_succ hk) hkn),
        Nat.add_right_comm]

theorem sumTo_upd_fn {β : Type} (w : β → Nat) (f : Nat → β) {k n : Nat} (b : β) (hk : k < n) :
    sumTo n (fun j => w (upd f k b j)) + w (f k) = sumTo n (fun j => w (f j)) + w b := by
  have := sumTo_upd n (fun j => w (f j)) (fun j => w (upd f k b j)) k hk (fun j hj => by rw [upd_other _ _ _ _ hj])
  rwa [upd_same] at this

theorem sumTo_const (n c : Nat) : sumTo n (fun _ => c) = n * c := by
  induction n with
  | zero => simp [sumTo]
  | succ n ih => rw [sumTo_succ, ih]; simp [Nat.add_mul]

/-- work passes from one part of a potential to the next: the first gives up `k`, the second gains less -/
theorem move_lt {x a a' b b' k j : Nat} (ha : a' + k ≤ a) (hb : b' ≤ b + j) (hjk : j < k) : x + a' + b' < x + a + b := by
  omega

/-- one step is left for a party that has not finished -/
def todo : Bool → Nat
  | true => 0
  | false => 1

/-- remaining work of the feeder and on the queued input, the helper spending `c` steps on each queued value -/
def feedPot (c : Nat) (rest inq : List α) (ic : Bool) : Nat := (c + 1) * rest.length + c * inq.length + todo ic

theorem feedPot_feed (c : Nat) (v : α) (r inq : List α) (ic : Bool) :
    feedPot c r (inq ++ [v]) ic < feedPot c (v :: r) inq ic := by
  simp only [feedPot, List.length_append, List.length_cons, List.length_nil, Nat.mul_add]; omega

theorem feedPot_close (c : Nat) (rest inq : List α) : feedPot c rest inq true < feedPot c rest inq false :=
  Nat.lt_succ_self _

/-- the helper takes a queued value in hand, `w` of whose `w + 1` steps are then left; `x` is the helper's other work -/
theorem feedPot_recv (w x : Nat) (v : α) (rest q : List α) (ic : Bool) :
    feedPot (w + 1) rest q ic + (x + w) < feedPot (w + 1) rest (v :: q) ic + x := by
  simp only [feedPot, List.length_cons, Nat.mul_add]; omega

/-- one read for every buffered value -/
def bufPot (n : Nat) (buf : Nat → List α) : Nat := sumTo n (fun k => (buf k).length)

theorem bufPot_push {n k : Nat} (hk : k < n) (buf : Nat → List α) (v : α) :
    bufPot n (upd buf k (buf k ++ [v])) = bufPot n buf + 1 := by
  have := sumTo_upd_fn List.length buf (buf k ++ [v]) hk
  simp only [bufPot, List.length_append, List.length_singleton] at this ⊢; omega

theorem bufPot_pop {n k : Nat} (hk : k < n) {buf : Nat → List α} {v : α} {b : List α} (h : buf k = v :: b) :
    bufPot n (upd buf k b) < bufPot n buf := by
  have := sumTo_upd_fn List.length buf b hk
  simp only [bufPot, h, List.length_cons] at this ⊢; omega

/-- the final read (ok = false) of every reader that has not finished -/
def rdPot (n : Nat) (rd : Nat → Bool) : Nat := sumTo n (fun k => todo (rd k))

theorem rdPot_done {n k : Nat} (hk : k < n) {rd : Nat → Bool} (h : rd k = false) : rdPot n (upd rd k true) < rdPot n rd := by
  have := sumTo_upd_fn todo rd true hk
  simp only [rdPot, h, todo] at this ⊢; omega

/-- a weight that counts the outputs still to be closed (`n - k` at `close k`, 0 at `done`) -/
theorem closing_weight_lt {P : Type} {close : Nat → P} {done : P} {k n : Nat} {w : P → Nat} (hk : k < n) (hc : ∀ j, w (close j) = n - j) (hd : w done = 0) :
    w (if k + 1 < n then close (k + 1) else done) < w (close k) := by
  split
  · rw [hc, hc]; exact Nat.sub_succ_lt_self n k hk
  · rw [hd, hc]; exact Nat.sub_pos_of_lt hk

end CM
