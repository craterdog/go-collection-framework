/-
  C15 — Set algebra equals intersection, union, difference and symmetric difference.
-/
import CollectionModel.Props.C02
namespace CM
open CM.Seq CM.SetM

variable {α : Type} [Inhabited α] [DecidableEq α]

/-- **And = intersection**: a new strictly ascending (duplicate-free) set holding exactly
    the members of `a` that `b` contains (up to rank-equivalence) -/
theorem C15_and (rank rank2 : α → α → Rank) (h : TotalPreorder rank) (h2 : TotalPreorder rank2)
    (a b : List α) (hb : SSorted rank2 b) :
    ∃ r, setAnd rank rank2 a b = some (.ok r) ∧ SSorted rank r ∧
      (∀ x ∈ r, x ∈ a ∧ mem rank2 b x = true) ∧ (∀ x ∈ a, mem rank2 b x = true → mem rank r x = true) := by
  have sp := insAll_spec h (a.filter (mem rank2 b)) [] (ssorted_nil rank)
  refine ⟨_, andLoop_eq rank rank2 h h2 b hb a [] (ssorted_nil rank), sp.sorted, fun x hx => ?_,
    fun x hx hm => sp.covers x (List.mem_filter.mpr ⟨hx, hm⟩)⟩
  exact List.mem_filter.mp (sp.sub_nil x hx)

/-- **Or = union** -/
theorem C15_or (rank : α → α → Rank) (h : TotalPreorder rank) (a b : List α) :
    ∃ r, setOr rank a b = some (.ok r) ∧ SSorted rank r ∧
      (∀ x ∈ r, x ∈ a ∨ x ∈ b) ∧ (∀ x ∈ a ++ b, mem rank r x = true) := by
  have sp := insAll_spec h (a ++ b) [] (ssorted_nil rank)
  exact ⟨_, setOr_eq rank h a b, sp.sorted,
    fun x hx => List.mem_append.mp (sp.sub_nil x hx), sp.covers⟩

/-- **Sans = difference** -/
theorem C15_sans (rank : α → α → Rank) (h : TotalPreorder rank) (a b : List α) :
    ∃ r, setSans rank a b = some (.ok r) ∧ SSorted rank r ∧
      (∀ x ∈ r, x ∈ a ∧ mem rank b x = false) ∧ (∀ x ∈ a, mem rank b x = false → mem rank r x = true) := by
  have sp := insAll_spec h a [] (ssorted_nil rank)
  refine ⟨_, setSans_eq rank h a b, ssorted_filter _ _ sp.sorted, fun x hx => ?_, fun x hx hm => ?_⟩
  · obtain ⟨hx, hm⟩ := List.mem_filter.mp hx
    exact ⟨sp.sub_nil x hx, by simpa using hm⟩
  · rw [mem_filter _ x (fun y e => by rw [mem_congr h b e]), sp.covers x hx, hm]; rfl

/-- **Xor = symmetric difference** -/
theorem C15_xor (rank rank2 : α → α → Rank) (h : TotalPreorder rank) (h2 : TotalPreorder rank2)
    (hcompat : ∀ x y, rank2 x y = .eq → rank x y = .eq) (a b : List α) :
    ∃ r, setXor rank rank2 a b = some (.ok r) ∧ SSorted rank r ∧
      (∀ x ∈ r, (x ∈ a ∧ mem rank b x = false) ∨ (x ∈ b ∧ mem rank2 a x = false)) ∧
      (∀ x ∈ a, mem rank b x = false → mem rank r x = true) ∧
      (∀ x ∈ b, mem rank2 a x = false → mem rank r x = true) := by
  obtain ⟨x1, hx1, _, a1, c1⟩ := C15_sans rank h a b
  obtain ⟨x2, hx2, _, a2, c2⟩ := C15_sans rank2 h2 b a
  obtain ⟨r, hr, s3, a3, c3⟩ := C15_or rank h x1 x2
  refine ⟨r, by simp [setXor, hx1, hx2, bindR_ok, hr], s3, fun x hx => (a3 x hx).imp (a1 x) (a2 x), ?_, ?_⟩
  -- the class of `x` is stored in the difference, and that value's class in the union
  · intro x hx hnb
    obtain ⟨y, hy, he⟩ := mem_iff.mp (c1 x hx hnb)
    rw [mem_congr h r he]; exact c3 y (List.mem_append.mpr (Or.inl hy))
  · intro x hx hna
    obtain ⟨y, hy, he⟩ := mem_iff.mp (c2 x hx hna)
    rw [mem_congr h r (hcompat x y he)]; exact c3 y (List.mem_append.mpr (Or.inr hy))

/-- **the four class functions refine the executable set-algebra specification**
    (the form the driver evaluates on the real observations) -/
theorem C15_step_refines (rank rank2 : α → α → Rank) (h : TotalPreorder rank) (h2 : TotalPreorder rank2)
    (hcompat : ∀ x y, rank2 x y = .eq → rank x y = .eq) (s a b : List α) (hb : SSorted rank2 b) :
    SetM.allowed2 rank rank2 s (.setAnd a b) (SetM.step2 rank rank2 s (.setAnd a b)) = true ∧
    SetM.allowed2 rank rank2 s (.setOr a b) (SetM.step2 rank rank2 s (.setOr a b)) = true ∧
    SetM.allowed2 rank rank2 s (.setSans a b) (SetM.step2 rank rank2 s (.setSans a b)) = true ∧
    SetM.allowed2 rank rank2 s (.setXor a b) (SetM.step2 rank rank2 s (.setXor a b)) = true := by
  -- the spec writes its implications as Boolean disjunctions
  have orT {p q : Bool} (hq : p = true → q = true) : p = false ∨ q = true := by
    cases p; exact .inl rfl; exact .inr (hq rfl)
  have orF {p q : Bool} (hq : p = false → q = true) : p = true ∨ q = true := by
    cases p; exact .inr (hq rfl); exact .inl rfl
  obtain ⟨r1, hr1, sorted1, sub1, covers1⟩ := C15_and rank rank2 h h2 a b hb
  obtain ⟨r2, hr2, sorted2, sub2, covers2⟩ := C15_or rank h a b
  obtain ⟨r3, hr3, sorted3, sub3, covers3⟩ := C15_sans rank h a b
  obtain ⟨r4, hr4, sorted4, sub4, coversA, coversB⟩ := C15_xor rank rank2 h h2 hcompat a b
  refine ⟨retWhere_obsR hr1 ?_, retWhere_obsR hr2 ?_, retWhere_obsR hr3 ?_, retWhere_obsR hr4 ?_⟩
  all_goals simp only [member_eq_mem, Bool.and_eq_true, List.all_eq_true, Bool.or_eq_true,
    List.contains_iff_mem, Bool.not_eq_true']
  · exact ⟨⟨(strictAsc_iff rank r1).mpr sorted1, sub1⟩, fun x hx => orT (covers1 x hx)⟩
  · exact ⟨⟨(strictAsc_iff rank r2).mpr sorted2, sub2⟩, covers2⟩
  · exact ⟨⟨(strictAsc_iff rank r3).mpr sorted3, sub3⟩, fun x hx => orF (covers3 x hx)⟩
  · exact ⟨⟨⟨(strictAsc_iff rank r4).mpr sorted4, sub4⟩, fun x hx => orF (coversA x hx)⟩,
      fun x hx => orF (coversB x hx)⟩

/-- the operands are values of the model: computing a result cannot change them, and the
    same set passed twice is handled like two equal sets (`A op A`) -/
theorem C15_same_operand (rank : α → α → Rank) (h : TotalPreorder rank) (a : List α) (ha : SSorted rank a) :
    (∃ r, setSans rank a a = some (.ok r) ∧ r = []) ∧
    (∃ r, setXor rank rank a a = some (.ok r) ∧ r = []) := by
  -- every value of `a` is a member of `a`, so neither difference can hold anything
  have absent (x : α) : ¬ (x ∈ a ∧ mem rank a x = false) := fun ⟨hx, hm⟩ => by
    rw [mem_iff.mpr ⟨x, hx, h.refl x⟩] at hm; cases hm
  obtain ⟨r, hr, _, h2, _⟩ := C15_sans rank h a a
  obtain ⟨q, hq, _, g2, _, _⟩ := C15_xor rank rank h h (fun _ _ e => e) a a
  exact ⟨⟨r, hr, List.eq_nil_iff_forall_not_mem.mpr fun x hx => absent x (h2 x hx)⟩,
    ⟨q, hq, List.eq_nil_iff_forall_not_mem.mpr fun x hx => (g2 x hx).elim (absent x) (absent x)⟩⟩

example : TotalPreorder (fun (a b : Int) => rankInt (a / 3) (b / 3)) := rankInt_total.comap (· / 3)
example : TotalPreorder (fun (a b : Int) => rankInt b a) := rankInt_total.reverse

end CM
