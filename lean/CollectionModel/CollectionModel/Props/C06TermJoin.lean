/-
  C06, termination half for **Split followed by Join**: for every input stream, fan-out
  n ≥ 1, capacity ≥ 1 and interleaving of the feeder, the Split helper, the Join helper and
  the reader of the joined queue.  The Split half of every case analysis is parallel to Props/C06TermSplit.lean.
-/
import CollectionModel.Props.C06TermSplit
namespace CM
open CM.Pipes

variable {α : Type}

/-- at `recv`: notice a closed input and close the joined queue; a value in hand adds its send and its read -/
def hjpot : HJ α → Nat
  | .recv => 2
  | .send _ => 4
  | .close => 1
  | .done => 0

/-- a value takes six steps (feed, Split receives, Split sends, Join receives, Join sends, read): five are left once
    it is queued, four in Split's hand, three in a middle queue, two in Join's hand, one in the joined queue -/
def sjPot (n : Nat) (s : SJ α) : Nat :=
  feedPot 5 s.rest s.inq s.inClosed + hpotS 4 n s.h + 3 * bufPot n s.mid + hjpot s.hj + s.ob.length + todo s.rdDone

/-- **every atomic step does one unit of the remaining work** (both iterators point at a middle queue) -/
theorem C06_splitjoin_step_decreases (n cap : Nat) (s t : SJ α) (ht : s.turn < n) (htj : s.turnJ < n) (h : JStep n cap s t) :
    sjPot n t < sjPot n s := by
  cases h with
  | feed v r h1 h2 h3 => simp only [sjPot, h1, Nat.add_lt_add_iff_right]; exact feedPot_feed ..
  | feedClose h1 h3 => simp only [sjPot, h3, Nat.add_lt_add_iff_right]; exact feedPot_close ..
  | hRecv v q h1 h2 => simp only [sjPot, h1, h2, Nat.add_lt_add_iff_right]; exact feedPot_recv 4 ..
  | hRecvClosed h1 h2 h3 =>
    simp only [sjPot, h1, Nat.add_lt_add_iff_right, Nat.add_lt_add_iff_left]; exact Nat.lt_succ_self n
  | hSend v h1 h2 h3 =>
    simp only [sjPot, h1, Nat.add_lt_add_iff_right]
    -- of the four steps left for the value in Split's hand three are left once it is in a middle queue
    exact move_lt (k := 4) (Nat.le_refl _) (Nat.le_of_eq (congrArg (3 * ·) (bufPot_push ht ..))) (Nat.lt_succ_self 3)
  | hClose k h1 hk =>
    simp only [sjPot, h1, Nat.add_lt_add_iff_right, Nat.add_lt_add_iff_left]
    exact closing_weight_lt hk (fun _ => rfl) rfl
  | jRecv v b h1 h2 =>
    simp only [sjPot, h1, Nat.add_lt_add_iff_right]
    exact move_lt (k := 3) (Nat.mul_le_mul_left 3 (bufPot_pop htj h2)) (Nat.le_refl 4) (Nat.lt_succ_self 2)
  | jRecvClosed h1 h2 h3 =>
    simp only [sjPot, h1, Nat.add_lt_add_iff_right, Nat.add_lt_add_iff_left]; exact Nat.lt_succ_self 1
  | jSend v h1 h2 h3 =>
    simp only [sjPot, h1, Nat.add_lt_add_iff_right]
    exact move_lt (k := 2) (Nat.le_refl 4) (Nat.le_of_eq List.length_append) (Nat.lt_succ_self 1)
  | jClose h1 =>
    simp only [sjPot, h1, Nat.add_lt_add_iff_right, Nat.add_lt_add_iff_left]; exact Nat.lt_succ_self 0
  | read v b h1 h2 =>
    simp only [sjPot, h1, Nat.add_lt_add_iff_right, Nat.add_lt_add_iff_left]; exact Nat.lt_succ_self _
  | readClosed h1 h2 h3 => simp only [sjPot, h3, Nat.add_lt_add_iff_left]; exact Nat.lt_succ_self 0

inductive JRun (n cap : Nat) : SJ α → Nat → SJ α → Prop
  | zero (s) : JRun n cap s 0 s
  | succ {s t u m} : JStep n cap s t → JRun n cap t m u → JRun n cap s (m + 1) u

theorem JRun.steps {n cap m : Nat} {s u : SJ α} (h : JRun n cap s m u) : Steps (JStep n cap) s m u := by
  induction h with
  | zero => exact .zero _
  | succ hs _ ih => exact .succ hs ih

theorem sj_turns (input : List α) (n cap : Nat) (hn : 1 ≤ n) (s : SJ α) (hr : JReach n cap (initSJ input) s) :
    s.turn < n ∧ s.turnJ < n := by
  have inv := C06_splitjoin_inv input n cap hn s hr
  exact ⟨by rw [inv.turn]; exact Nat.mod_lt _ hn, by rw [inv.turnJ]; exact Nat.mod_lt _ hn⟩

theorem sj_reach_decreases (input : List α) (n cap : Nat) (hn : 1 ≤ n) (s t : SJ α)
    (hr : JReach n cap (initSJ input) s) (h : JStep n cap s t) : sjPot n t < sjPot n s :=
  have ht := sj_turns input n cap hn s hr
  C06_splitjoin_step_decreases n cap s t ht.1 ht.2 h

/-- **no infinite run** from a reachable state -/
theorem C06_splitjoin_run_bounded (input : List α) (n cap : Nat) (hn : 1 ≤ n) (m : Nat) (s u : SJ α)
    (hr : JReach n cap (initSJ input) s) (h : JRun n cap s m u) : m + sjPot n u ≤ sjPot n s :=
  (Steps.bounded (fun _ _ => JReach.step) (sj_reach_decreases input n cap hn) h.steps hr).2

/-- what Split's helper has closed so far, and what the reader of the joined queue may conclude once Join is done -/
structure SJProg (n : Nat) (s : SJ α) : Prop where
  closing : Closing HS.close HS.done n s.h s.mclosed
  jdone : s.hj = .done → s.oClosed = true
  rdClosed : s.rdDone = true → s.oClosed = true ∧ s.ob = []

theorem sj_prog_reach (input : List α) (n cap : Nat) (hn : 1 ≤ n) (s : SJ α) (h : JReach n cap (initSJ input) s) :
    SJProg n s := by
  induction h with
  | init => exact ⟨.of_not_closing nofun nofun, nofun, nofun⟩
  | step _ hs hp =>
    cases hs with
    | feed _ _ _ _ _ | feedClose _ _ => exact { hp with }
    | hRecv _ _ _ _ | hSend _ _ _ _ => exact { hp with closing := .of_not_closing nofun nofun }
    | hRecvClosed h1 h2 h3 => exact { hp with closing := .start closingPC_HS hn }
    | hClose k h1 hk => exact { hp with closing := hp.closing.next closingPC_HS h1 }
    | jRecv _ _ _ _ | jRecvClosed _ _ _ => exact { hp with jdone := nofun }
    | jSend v h1 h2 h3 =>
      exact { hp with jdone := nofun, rdClosed := fun e => by rw [(hp.rdClosed e).1] at h3; cases h3 }
    | jClose h1 => exact { hp with jdone := fun _ => rfl, rdClosed := fun e => ⟨rfl, (hp.rdClosed e).2⟩ }
    | read v b h1 h2 => exact { hp with rdClosed := fun e => nomatch h2.symm.trans e }
    | readClosed h1 h2 h3 => exact { hp with rdClosed := fun _ => ⟨h2, h1⟩ }

/-- the final state: both helpers at `group.Done()`, the middle queues and the joined queue closed and drained, the
    reader has seen ok=false -/
def SJFinal (n : Nat) (s : SJ α) : Prop :=
  s.h = .done ∧ s.hj = .done ∧ (∀ k, k < n → s.mclosed k = true ∧ s.mid k = []) ∧ s.oClosed = true ∧ s.ob = [] ∧ s.rdDone = true

/-- **nobody waits for ever** in Split → Join: the round-robin positions of Split and Join agree, so Join never
    waits on an empty queue while Split waits on a full one -/
theorem C06_splitjoin_no_deadlock (input : List α) (n cap : Nat) (hn : 1 ≤ n) (hcap : 1 ≤ cap) (s : SJ α)
    (hr : JReach n cap (initSJ input) s) : SJFinal n s ∨ ∃ t, JStep n cap s t := by
  have inv := C06_splitjoin_inv input n cap hn s hr
  have hp := sj_prog_reach input n cap hn s hr
  obtain ⟨htn, htjn⟩ := sj_turns input n cap hn s hr
  have splitSide : s.later = [] → s.h ≠ .done → ∃ t, JStep n cap s t := by
    intro hl hnd
    cases hh : s.h with
    | recv =>
      cases hq : s.inq with
      | cons v q => exact ⟨_, JStep.hRecv s v q hh hq⟩
      | nil =>
        cases hc : s.inClosed with
        | true => exact ⟨_, JStep.hRecvClosed s hh hq hc⟩
        | false =>
          cases hrest : s.rest with
          | nil => exact ⟨_, JStep.feedClose s hrest hc⟩
          | cons v r => exact ⟨_, JStep.feed s v r hrest (by rw [hq]; exact hcap) hc⟩
    | send v =>
      have hnc : s.mclosed s.turn = false :=
        open_of_not_closing inv.noLate hh nofun nofun _
      exact ⟨_, JStep.hSend s v hh (by rw [inv.mid_nil hl htn]; exact hcap) hnc⟩
    | close k => exact ⟨_, JStep.hClose s k hh (hp.closing.lt k hh)⟩
    | done => exact absurd hh hnd
  have reader : s.rdDone = false → (s.ob = [] → s.oClosed = true) → ∃ t, JStep n cap s t := by
    intro hd hb
    cases hob : s.ob with
    | nil => exact ⟨_, JStep.readClosed s hob (hb hob) hd⟩
    | cons v b => exact ⟨_, JStep.read s v b hob hd⟩
  cases hhj : s.hj with
  | send v =>
    right
    have hnc : s.oClosed = false :=
      Bool.eq_false_iff.mpr fun hc => by have := inv.oLate hc; rw [hhj] at this; cases this
    by_cases hfull : s.ob.length < cap
    · exact ⟨_, JStep.jSend s v hhj hfull hnc⟩
    · have hnd : s.rdDone = false :=
        Bool.eq_false_iff.mpr fun hd => by rw [(hp.rdClosed hd).1] at hnc; cases hnc
      exact reader hnd fun e => absurd (by rw [e]; exact hcap) hfull
  | close => exact Or.inr ⟨_, JStep.jClose s hhj⟩
  | recv =>
    right
    cases hm : s.mid s.turnJ with
    | cons v b => exact ⟨_, JStep.jRecv s v b hhj hm⟩
    | nil =>
      cases hmc : s.mclosed s.turnJ with
      | true => exact ⟨_, JStep.jRecvClosed s hhj hm hmc⟩
      | false =>
        -- Join waits on an empty open queue: then nothing is in flight
        exact splitSide (inv.later_nil hn hhj hm) fun hd => by
          have := hp.closing.closed s.turnJ htjn (.inr hd)
          rw [hmc] at this; cases this
  | done =>
    have hoc := hp.jdone hhj
    have hfin := inv.jfin (Or.inr hhj)
    cases hd : s.rdDone with
    | false => exact Or.inr (reader hd fun _ => hoc)
    | true =>
      have hob := (hp.rdClosed hd).2
      by_cases hdone : s.h = .done
      · left
        exact ⟨hdone, hhj, fun k hk => ⟨hp.closing.closed k hk (.inr hdone), inv.mid_nil hfin.1 hk⟩, hoc, hob, hd⟩
      · exact .inr (splitSide hfin.1 hdone)

theorem sjPot_init (input : List α) (n : Nat) : sjPot n (initSJ input) = 6 * input.length + (n + 5) := by
  simp only [sjPot, feedPot, bufPot, initSJ, hpotS, hjpot, List.length_nil, todo]
  rw [sumTo_const]; omega

/-- **Split followed by Join terminates** — for every input, fan-out ≥ 1, capacity ≥ 1 and every
    interleaving: no run is longer than 6·|input| + n + 5 steps, and a run that cannot be extended
    has reached the final state (both helper goroutines at `group.Done()`, the queues between them
    and the joined queue closed and drained, the reader has seen ok=false) in which the reader has
    read exactly the input, in order. -/
theorem C06_splitjoin_terminates (input : List α) (n cap : Nat) (hn : 1 ≤ n) (hcap : 1 ≤ cap) (m : Nat) (u : SJ α)
    (hrun : JRun n cap (initSJ input) m u) :
    m ≤ 6 * input.length + (n + 5) ∧
    ((¬ ∃ t, JStep n cap u t) → SJFinal n u ∧ u.rd = input) := by
  obtain ⟨hb, hr, hfin⟩ := Steps.terminates (F := SJFinal n) (fun _ _ => JReach.step)
    (sj_reach_decreases input n cap hn) (C06_splitjoin_no_deadlock input n cap hn hcap) hrun.steps .init
  rw [sjPot_init] at hb
  refine ⟨hb, fun hstuck => ?_⟩
  have hf := hfin hstuck
  have ⟨_, join_done, _, _, ob_nil, _⟩ := hf
  exact ⟨hf, C06_splitjoin_final input n cap hn u hr join_done ob_nil⟩

end CM
