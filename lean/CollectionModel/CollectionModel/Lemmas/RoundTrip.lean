/-
  The round trip of the notation (C10) on the three executable models: the text the
  formatter model writes for a value of the canonical universe is read by the scanner
  model as the tokens of a syntax tree (Model/Cdcn/Sentence.lean) whose meaning is that
  value.  Together with C11_sentence_accepted (every syntax tree is parsed to its meaning)
  this gives `parse (scan (format v)) = v`.

  The text of a leaf is an external (`strconv`): what the proof needs of it is the explicit
  hypothesis `LeafLex`.  This file holds the vocabulary (`Term`, `Starts`, `LeafLex`, `Canon`) and what
  follows from the contract for one leaf; `RoundTripLex.lean` holds the reading of the formatter's text.
-/
import CollectionModel.Lemmas.ScanFormat
import CollectionModel.Lemmas.FormatLemmas
namespace CM
namespace Cdcn

/-- what follows a leaf in the formatter's output: the end of an inline sequence, a new
    line, or the colon after a key -/
def Term (rest : Src) : Prop := ∃ c r, rest = c :: r ∧ (c = ch ']' ∨ c = 10 ∨ c = ch ':')

def Starts (t : Src) : Prop := ∃ c r, t = c :: r ∧ c ≠ 32

theorem Starts.nosp {t : Src} (h : Starts t) (rest : Src) : NoSp (t ++ rest) := by
  obtain ⟨c, r, rfl, hc⟩ := h
  intro r' e
  exact hc (List.cons.inj e).1

/-- the contract of the leaf texts (`strconv.Format*`, `Quote`, `QuoteRune`) with the scanner
    and the conversion oracle (`strconv.Parse*`, `Unquote`): wherever the formatter puts it,
    the text of a leaf is one token of a literal kind, and that token converts back to the leaf -/
structure LeafLex (leafText : Val → Option (List Nat)) (conv : Token → Option Val) : Prop where
  lex : ∀ leaf t, leafText leaf = some t → ∃ tt, isLiteralKind tt = true ∧
      (∀ rest, Term rest → matchToken (t ++ rest) = some (tt, t.length)) ∧
      (∀ line pos, conv { tt := tt, value := t, line := line, pos := pos } = some leaf)

theorem term_eol (r : Src) : Term (10 :: r) := ⟨10, r, rfl, Or.inr (Or.inl rfl)⟩
theorem term_rbracket (r : Src) : Term (ch ']' :: r) := ⟨_, r, rfl, Or.inl rfl⟩
theorem term_colon (r : Src) : Term (ch ':' :: r) := ⟨_, r, rfl, Or.inr (Or.inr rfl)⟩

variable {leafText : Val → Option (List Nat)} {conv : Token → Option Val}

theorem LeafLex.starts (h : LeafLex leafText conv) (leaf : Val) (t : List Nat) (ht : leafText leaf = some t) : Starts t := by
  obtain ⟨tt, hk, hm, _⟩ := h.lex leaf t ht
  -- before a newline an empty text would scan as EOL, a leading blank as white space: neither is a literal kind
  have h1 := hm [10] (term_eol [])
  cases t with
  | nil =>
    rw [List.nil_append, match_eol] at h1
    obtain ⟨rfl, _⟩ := Prod.mk.inj (Option.some.inj h1)
    exact absurd hk (by decide)
  | cons c r =>
    refine ⟨c, r, rfl, fun e => ?_⟩
    rw [e, List.cons_append, match_space] at h1
    obtain ⟨rfl, _⟩ := Prod.mk.inj (Option.some.inj h1)
    exact absurd hk (by decide)

theorem scan_leaf (h : LeafLex leafText conv) (leaf : Val) (t : List Nat) (ht : leafText leaf = some t)
    (R : Src) (lc : Nat × Nat) (hR : Term R) :
    ∃ tok lc', isLiteralKind tok.tt = true ∧ conv tok = some leaf ∧ scanFrom (t ++ R) lc = tok :: scanFrom R lc' := by
  obtain ⟨tt, hk, hm, hc⟩ := h.lex leaf t ht
  obtain ⟨c, r, rfl, _⟩ := h.starts leaf t ht
  have hne : tt ≠ .space := by intro e; subst e; exact absurd hk (by decide)
  exact ⟨{ tt := tt, value := c :: r, line := lc.1, pos := lc.2 }, advance lc (c :: r), hk, hc _ _,
    scanFrom_lexeme R lc (List.cons_ne_nil c r) (hm R hR) hne⟩

def CollOk (mkSet : List Val → Option Val) : CK → List Val → Prop
  | .catalog, xs => (∀ x ∈ xs, isAssocVal x = true) ∧ Val.catalogOf (pairsOf xs) = xs
  | .set, xs => (∀ x ∈ xs, isAssocVal x = false) ∧ mkSet xs = some (.coll .set xs)
  | _, xs => ∀ x ∈ xs, isAssocVal x = false

mutual
/-- `Canon d v`: written at depth `d`, the value is within the formatter's limit and is
    what the parser builds: Arrays (not raw Go slices), Maps (not raw Go maps) with distinct
    keys, Catalogs with distinct keys, Sets as `Set.MakeFromSequence` orders them;
    associations only as the items of Catalogs and Maps -/
def Canon (mkSet : List Val → Option Val) (max : Nat) : Nat → Val → Prop
  | d, .arr cls n xs => cls = true ∧ n = false ∧ d < max ∧ CanonList mkSet max (d+1) xs ∧ (∀ x ∈ xs, isAssocVal x = false)
  | d, .coll k xs => d < max ∧ CanonList mkSet max (d+1) xs ∧ CollOk mkSet k xs
  | d, .gomap cls n es => cls = true ∧ n = false ∧ d < max ∧ CanonEntries mkSet max (d+1) es ∧ Val.mapOf es = es
  | d, .assoc _ x => Canon mkSet max d x ∧ isAssocVal x = false
  | _, _ => True
def CanonList (mkSet : List Val → Option Val) (max : Nat) : Nat → List Val → Prop
  | _, [] => True
  | d, x :: xs => Canon mkSet max d x ∧ CanonList mkSet max d xs
def CanonEntries (mkSet : List Val → Option Val) (max : Nat) : Nat → List (Val × Val) → Prop
  | _, [] => True
  | d, (_, x) :: es => (Canon mkSet max d x ∧ isAssocVal x = false) ∧ CanonEntries mkSet max d es
end

def isCollVal : Val → Bool
  | .arr _ _ _ => true
  | .coll _ _ => true
  | .gomap _ _ _ => true
  | _ => false

def SValue.isColl : SValue → Bool
  | .coll _ _ _ _ _ _ => true
  | .lit _ => false

theorem isCollVal_iff {v : Val} : isCollVal v = true ↔ ctxName v ≠ [] := by
  cases v with
  | arr c n xs => exact iff_of_true rfl (ctxName_ne_nil.mpr (.inl ⟨c, n, xs, rfl⟩))
  | coll k xs => exact iff_of_true rfl (ctxName_ne_nil.mpr (.inr (.inl ⟨k, xs, rfl⟩)))
  | gomap c n es => exact iff_of_true rfl (ctxName_ne_nil.mpr (.inr (.inr ⟨c, n, es, rfl⟩)))
  | _ => exact iff_of_false Bool.false_ne_true fun h => h rfl

theorem canonList_entries (mkSet : List Val → Option Val) (max d : Nat) :
    ∀ es : List (Val × Val), CanonEntries mkSet max d es → CanonList mkSet max d (es.map fun e => Val.assoc e.1 e.2)
  | [], _ => trivial
  | (_, _) :: es, h => And.intro (And.left h) (canonList_entries mkSet max d es (And.right h))

theorem pairsOf_assoc_cons (k x : Val) (xs : List Val) : pairsOf (.assoc k x :: xs) = (k, x) :: pairsOf xs := rfl

theorem pairsOf_map_assoc : ∀ es : List (Val × Val), pairsOf (es.map fun e => Val.assoc e.1 e.2) = es
  | [] => rfl
  | (k, x) :: es => by rw [List.map_cons, pairsOf_assoc_cons, pairsOf_map_assoc es]

theorem all_assoc_map (es : List (Val × Val)) : ∀ x ∈ es.map (fun e => Val.assoc e.1 e.2), isAssocVal x = true := by
  intro x hx
  simp only [List.mem_map] at hx
  obtain ⟨e, _, rfl⟩ := hx
  rfl

theorem multiAssocs_mean (env : Env) (e : Token) (a : SAssoc) (more : SAssocs) (last : Token) :
    (SItems.multiAssocs e a more last).mean env = ((SAssocs.cons e a more).mean env).map Val.catalogOf := by
  simp only [SItems.mean, SAssocs.mean]
  cases a.mean env <;> cases more.mean env <;> rfl

theorem str_colon_space : str ": " = [ch ':', 32] := by decide
theorem str_colon : str ":" = [ch ':'] := by decide
theorem str_space : str " " = [32] := by decide

end Cdcn
end CM
