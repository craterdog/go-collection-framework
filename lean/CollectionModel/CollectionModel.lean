import CollectionModel.Model.Basic
import CollectionModel.Model.Seq
import CollectionModel.Model.Sorter
import CollectionModel.Model.SeqOps
import CollectionModel.Spec.SeqSpec
import CollectionModel.Lemmas.SeqLemmas
import CollectionModel.Lemmas.SorterLemmas
import CollectionModel.Props.C01
import CollectionModel.Model.Stack
import CollectionModel.Model.Iterator
import CollectionModel.Props.C09
import CollectionModel.Props.C13
import CollectionModel.Props.C17
import CollectionModel.Props.C02
import CollectionModel.Props.C15
import CollectionModel.Props.C03
import CollectionModel.Props.C14
import CollectionModel.Props.C16
import CollectionModel.Props.C07
import CollectionModel.Props.C08
import CollectionModel.Props.C12
import CollectionModel.Props.C11
import CollectionModel.Props.C10
import CollectionModel.Props.C04
import CollectionModel.Props.C05
import CollectionModel.Props.C06
import CollectionModel.Props.C20
import CollectionModel.Props.C18
import CollectionModel.Props.C19
import CollectionModel.Tie.Fns
import CollectionModel.Tie.Facts
import CollectionModel.Tie.Facade
import CollectionModel.Tie.Sharing
import CollectionModel.Props.C06Split
import CollectionModel.Props.C05Term
import CollectionModel.Props.C03Refine
import CollectionModel.Props.C12Total
import CollectionModel.Props.C11Complete
import CollectionModel.Lemmas.ParseCompleteModel
import CollectionModel.Props.C10Round
import CollectionModel.Props.C06TermJoin
import CollectionModel.Tie.Scanner
import CollectionModel.Props.C11Lex
import CollectionModel.Tie.QueueSync
import CollectionModel.Model.GoSem
import CollectionModel.Lemmas.GoSemLemmas
import CollectionModel.Tie.LoopsSet
import CollectionModel.Tie.LoopsStack
import CollectionModel.Tie.LoopsSorter
import CollectionModel.Props.C09Source
import CollectionModel.Tie.LoopsList
import CollectionModel.Tie.LoopsArray
