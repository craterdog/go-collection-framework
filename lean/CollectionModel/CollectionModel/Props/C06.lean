/-
  C06 — Fork, Split and Join conserve, order and terminate streams.

  Proved for Fork, for every input stream, fan-out, capacity and interleaving: every output
  always holds a prefix of the input in order (nothing lost, duplicated, reordered or
  invented), nothing is delivered after closure, and when the network has run to completion
  each reader has read exactly the input.  Split and Split→Join: Props/C06Split.lean.
  Termination of all three networks: Props/C06Term.lean, C06TermSplit.lean, C06TermJoin.lean.
  The state types of the three networks are distinct, so `fork_step_inv` and the two step lemmas of C06Split.lean
  have the feeder's and the receiving helper's arms in parallel, on purpose; what they share is in Lemmas/ClosingLoop.lean.
-/
import CollectionModel.Lemmas.ClosingLoop
namespace CM
open CM.Pipes

variable {α : Type}

structure ForkInv (input : List α) (n : Nat) (s : FS α) : Prop where
  eq : ∀ k, k < n → s.reads k ++ s.buf k ++ pend s.h k ++ s.inq ++ s.rest = input
  closedRest : s.inClosed = true → s.rest = []
  drained : (∀ v j, s.h ≠ .send v j) → s.h ≠ .recv → s.inq = [] ∧ s.inClosed = true
  noLate : ∀ k, s.oclosed k = true → (∃ j, s.h = .close j ∧ k < j) ∨ s.h = .done

theorem fork_init_inv (input : List α) (n : Nat) : ForkInv input n (initFS input) where
  eq := fun _ _ => rfl
  closedRest := nofun
  drained := fun _ h => absurd rfl h
  noLate := nofun

theorem pend_next {v : α} {k n j : Nat} (hj : j < n) :
    pend (if k + 1 < n then H.send v (k + 1) else .recv) j = if k + 1 ≤ j then [v] else [] := by
  by_cases hlast : k + 1 < n
  · rw [if_pos hlast]; rfl
  · rw [if_neg hlast]; exact (if_neg fun h => hlast (Nat.lt_of_le_of_lt h hj)).symm

/-- sending to output `k` moves the value from "on its way to `k`" into the buffer of `k`; the outputs before `k`
    have it already, those after `k` still wait for it -/
theorem eq_hSend {buf : Nat → List α} {v : α} {k n j : Nat} (hj : j < n) (rd q r : List α) :
    rd ++ upd buf k (buf k ++ [v]) j ++ pend (if k + 1 < n then H.send v (k + 1) else .recv) j ++ q ++ r =
      rd ++ buf j ++ pend (.send v k) j ++ q ++ r := by
  rw [pend_next hj, pend]
  rcases Nat.lt_trichotomy j k with h | rfl | h
  · rw [upd_other _ _ _ _ (Nat.ne_of_lt h), if_neg (Nat.not_le_of_gt (Nat.lt_succ_of_lt h)), if_neg (Nat.not_le_of_gt h)]
  · rw [upd_same, if_neg (Nat.not_succ_le_self j), if_pos (Nat.le_refl j), List.append_nil, ← List.append_assoc rd (buf j) [v]]
  · rw [upd_other _ _ _ _ (Nat.ne_of_gt h), if_pos (Nat.succ_le_of_lt h), if_pos (Nat.le_of_lt h)]

theorem fork_step_inv (input : List α) (n cap : Nat) (s t : FS α) (hi : ForkInv input n s) (hs : Step n cap s t) :
    ForkInv input n t := by
  cases hs with
  | feed v r h1 h2 h3 =>
    exact { hi with
      eq := fun k hk => by rw [append_move, ← h1]; exact hi.eq k hk
      closedRest := fun hc => nomatch h3.symm.trans hc
      drained := fun a b => nomatch h3.symm.trans (hi.drained a b).2 }
  | feedClose h1 h3 =>
    exact { hi with closedRest := fun _ => h1, drained := fun a b => ⟨(hi.drained a b).1, rfl⟩ }
  | hRecv v q h1 h2 =>
    exact { hi with
      eq := fun k hk => by have := hi.eq k hk; rw [h1, h2, ← append_move] at this; exact this
      drained := fun a => absurd rfl (a v 0)
      noLate := noLate_of_open hi.noLate h1 nofun nofun }
  | hRecvClosed h1 h2 h3 =>
    exact { hi with
      eq := fun k hk => by have := hi.eq k hk; rw [h1] at this; exact this
      drained := fun _ _ => ⟨h2, h3⟩
      noLate := noLate_of_open hi.noLate h1 nofun nofun }
  | hSend v k h1 hk h2 h3 =>
    exact { hi with
      eq := fun j hj => by rw [eq_hSend hj]; have := hi.eq j hj; rwa [h1] at this
      drained := fun a b => by
        by_cases hlast : k + 1 < n
        · simp only [hlast, if_true] at a
          exact absurd rfl (a v (k + 1))
        · simp only [hlast, if_false] at b
          exact absurd rfl b
      noLate := noLate_of_open hi.noLate h1 nofun nofun }
  | hClose k h1 hk =>
    exact { hi with
      eq := fun j hj => by have := hi.eq j hj; rw [h1] at this; split <;> exact this
      drained := fun _ _ => hi.drained (by rw [h1]; exact fun _ _ => nofun) (by rw [h1]; nofun)
      noLate := noLate_close closingPC_H hi.noLate h1 }
  | read k v b hk h1 h2 => exact { hi with eq := fun j hj => by dsimp only; rw [upd_read h1]; exact hi.eq j hj }
  | readClosed k hk h1 h2 => exact { hi with }

/-- **in every reachable state of every interleaving each Fork output holds a prefix of the
    input, in order**: what reader k has read, then what output k buffers, then what is still
    on its way, is exactly the input stream -/
theorem C06_fork_prefix_inv (input : List α) (n cap : Nat) (s : FS α) (h : Reach n cap (initFS input) s) :
    ForkInv input n s := by
  induction h with
  | init => exact fork_init_inv input n
  | step _ hst ih => exact fork_step_inv input n cap _ _ ih hst

/-- **each Fork output receives exactly the input sequence**: once the helper has finished
    and the outputs are drained, every reader has read the whole input in order -/
theorem C06_fork_final (input : List α) (n cap : Nat) (s : FS α) (h : Reach n cap (initFS input) s)
    (hdone : s.h = .done) (hempty : ∀ k, k < n → s.buf k = []) : ∀ k, k < n → s.reads k = input := by
  intro k hk
  have inv := C06_fork_prefix_inv input n cap s h
  have hd := inv.drained (by rw [hdone]; exact fun _ _ => nofun) (by rw [hdone]; nofun)
  have := inv.eq k hk
  rw [hempty k hk, hdone, hd.1, inv.closedRest hd.2] at this
  simpa [pend] using this

/-- **no value is delivered after closure**: once an output is closed the helper is past it and
    never sends to it again (its only sending state is `send`, excluded here) -/
theorem C06_fork_no_late (input : List α) (n cap : Nat) (s : FS α) (h : Reach n cap (initFS input) s)
    (k : Nat) (hc : s.oclosed k = true) : ∀ v j, s.h ≠ .send v j := by
  intro v j hh
  rcases (C06_fork_prefix_inv input n cap s h).noLate k hc with ⟨m, hm, _⟩ | hd
  · rw [hh] at hm; cases hm
  · rw [hh] at hd; cases hd

/-- Split followed by Join is the identity on the specification level: interleaving the
    round-robin shares of a two-way split gives the stream back (n = 2 instance) -/
example : splitSpec 2 0 0 [1, 2, 3, 4, 5] = [1, 3, 5] ∧ splitSpec 2 1 0 [1, 2, 3, 4, 5] = [2, 4] := by decide

example : ForkInv [1, 2] 2 (initFS [1, 2]) := fork_init_inv _ _

end CM
