/-
  C17 — Iterators are bidirectional cursors over an immutable snapshot.
-/
import CollectionModel.Model.Iterator
namespace CM
open CM.Iter

variable {α : Type}

/-- `ToSlot` in one piece: the three clamping steps of the Go code are the documented target,
    which lies within the snapshot -/
theorem Iter.toSlot_spec (s : Iter.St α) (k : Int) :
    (Iter.toSlot s k).slot =
      (if k > size s then size s else if k ≥ 0 then k
      else if k < -size s then (if size s = 0 then 0 else 1) else size s + 1 + k) ∧
    0 ≤ (Iter.toSlot s k).slot ∧ (Iter.toSlot s k).slot ≤ size s := by
  have hn : 0 ≤ size s := Int.natCast_nonneg _
  simp only [Iter.toSlot]
  generalize size s = n at hn ⊢
  have nn : -n ≤ 0 := Int.neg_nonpos_of_nonneg hn
  by_cases h1 : k > n
  · -- beyond the end: clamped to `n`, which neither later step moves
    rw [if_pos h1, if_pos h1, if_neg (Int.not_lt.mpr (Int.le_trans nn hn)), if_neg (Int.not_lt.mpr hn)]
    exact ⟨rfl, hn, Int.le_refl n⟩
  · rw [if_neg h1, if_neg h1]
    by_cases h2 : k ≥ 0
    · rw [if_pos h2, if_neg (Int.not_lt.mpr (Int.le_trans nn h2)), if_neg (Int.not_lt.mpr h2)]
      exact ⟨rfl, h2, Int.not_lt.mp h1⟩
    · rw [if_neg h2]
      by_cases h3 : k < -n
      · -- before the first slot: clamped to `-n`, i.e. slot 1 (slot 0 of an empty snapshot)
        rw [if_pos h3, if_pos h3]
        by_cases h0 : n = 0
        · subst h0; exact ⟨rfl, Int.le_refl 0, Int.le_refl 0⟩
        · have pos : 0 < n := Int.lt_iff_le_and_ne.mpr ⟨hn, Ne.symm h0⟩
          rw [if_pos (Int.neg_neg_of_pos pos), if_neg h0, Int.add_left_neg, Int.zero_add]
          exact ⟨rfl, by decide, pos⟩
      · rw [if_neg h3, if_neg h3, if_pos (Int.not_le.mp h2)]; omega

variable [Inhabited α]

theorem Iter.step_values (s : Iter.St α) (op : Iter.Op) : (Iter.step s op).1.values = s.values := by
  cases op with
  | getNext | getPrevious => dsimp only [Iter.step]; split <;> rfl
  | _ => rfl

variable [DecidableEq α]

def Iter.InRange (s : Iter.St α) : Prop := 0 ≤ s.slot ∧ s.slot ≤ s.values.length

/-- **slot stays within 0..size, and the snapshot never changes**, for every move -/
theorem C17_step_inv (s : Iter.St α) (h : Iter.InRange s) (op : Iter.Op) :
    Iter.InRange (Iter.step s op).1 ∧ (Iter.step s op).1.values = s.values := by
  refine ⟨?_, Iter.step_values s op⟩
  unfold Iter.InRange at *
  rw [Iter.step_values]
  cases op with
  | getNext =>
    dsimp only [Iter.step]
    by_cases c : s.slot < size s
    · rw [if_pos c]; exact ⟨Int.le_add_one h.1, Int.add_one_le_of_lt c⟩
    · rw [if_neg c]; exact h
  | getPrevious =>
    dsimp only [Iter.step]
    by_cases c : s.slot > 0
    · rw [if_pos c]
      exact ⟨Int.le_sub_one_of_lt c, Int.le_trans (Int.sub_le_self _ (by decide)) h.2⟩
    · rw [if_neg c]; exact h
  | toStart => exact ⟨Int.le_refl 0, Int.natCast_nonneg _⟩
  | toEnd => exact ⟨Int.natCast_nonneg _, Int.le_refl _⟩
  | toSlot k => exact (Iter.toSlot_spec s k).2
  | _ => exact h

/-- lifted to every sequence of moves -/
theorem C17_run_inv : ∀ (ops : List Iter.Op) (s : Iter.St α), Iter.InRange s →
    Iter.InRange (Iter.run s ops) ∧ (Iter.run s ops).values = s.values := by
  intro ops
  induction ops with
  | nil => exact fun _ h => ⟨h, rfl⟩
  | cons op ops ih =>
    intro s h
    have h1 := C17_step_inv s h op
    have h2 := ih _ h1.1
    exact ⟨h2.1, h2.2.trans h1.2⟩

/-- **refinement**: every move of the model is what the abstract cursor specification
    allows (HasNext/HasPrevious exactly when a value exists on that side, GetNext /
    GetPrevious return it and move one slot, zero value and no move at the ends,
    ToSlot clamps and counts negative slots from the end). -/
theorem C17_step_refines (s : Iter.St α) (h : Iter.InRange s) (op : Iter.Op) :
    Iter.allowed s op (Iter.step s op) = true := by
  cases op with
  | getNext =>
    dsimp only [Iter.allowed, Iter.step, Iter.at1]
    by_cases c : s.slot < size s
    · rw [if_pos c, if_pos c, Int.add_sub_cancel]; exact beq_self_eq_true _
    · rw [if_neg c, if_neg c]; exact beq_self_eq_true _
  | getPrevious =>
    dsimp only [Iter.allowed, Iter.step, Iter.at1]
    by_cases c : s.slot > 0
    · rw [if_pos c, if_pos c]; exact beq_self_eq_true _
    · rw [if_neg c, if_neg c]; exact beq_self_eq_true _
  | toSlot k =>
    exact beq_iff_eq.mpr (congrArg (fun x => (({ s with slot := x } : Iter.St α), Iter.Res.unit))
      (Iter.toSlot_spec s k).1)
  | hasNext | hasPrevious | toStart | toEnd | getSlot | getSize | isEmpty =>
    exact beq_self_eq_true _

/-- **GetNext then GetPrevious returns the same value and restores the slot** -/
theorem C17_next_prev (s : Iter.St α) (h : Iter.InRange s) (hn : s.slot < s.values.length) :
    let a := Iter.step s .getNext
    let b := Iter.step a.1 .getPrevious
    b.1 = s ∧ b.2 = a.2 := by
  dsimp only [Iter.step]
  rw [if_pos hn]
  dsimp only
  rw [if_pos (Int.lt_add_one_iff.mpr h.1), Int.add_sub_cancel]
  exact ⟨rfl, rfl⟩

/-- at the ends GetNext / GetPrevious return the zero value and stay put -/
theorem C17_ends (s : Iter.St α) :
    (s.slot = s.values.length → Iter.step s .getNext = (s, .val default)) ∧
    (s.slot = 0 → Iter.step s .getPrevious = (s, .val default)) := by
  constructor
  · intro e; dsimp only [Iter.step]; rw [if_neg (e ▸ Int.lt_irrefl _)]
  · intro e; dsimp only [Iter.step]; rw [if_neg (e ▸ Int.lt_irrefl _)]

/-- two iterators over one snapshot do not influence each other: a move of one
    is a function of its own state only (the model has no shared component), and
    no move writes the snapshot -/
theorem C17_independent (s t : Iter.St α) (op : Iter.Op) :
    (Iter.step s op).1.values = s.values ∧ t = t := by
  exact ⟨Iter.step_values s op, rfl⟩

example : Iter.InRange ({ values := [7, 8, 9], slot := 2 } : Iter.St Int) := by simp [Iter.InRange]
example : (Iter.step ({ values := [7, 8, 9], slot := 0 } : Iter.St Int) (.toSlot (-1))).1.slot = 3 := by decide

end CM
