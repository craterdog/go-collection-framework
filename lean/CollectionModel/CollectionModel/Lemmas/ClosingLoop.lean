/-
  Shared by the proofs about the Fork, Split and Join networks (Props/C06*.lean), whose state types differ:
  facts about the components.  `upd` is the point update of a per-output family; the helpers' closing loop
  `close 0, …, close (n-1), done` is followed for any program-counter type with such constructors (`ClosingPC`),
  so that Fork's `H` and Split's and Join's `HS` both use the lemmas.
-/
import CollectionModel.Model.Pipes2
namespace CM
open CM.Pipes

theorem upd_same {β : Type} (f : Nat → β) (k : Nat) (b : β) : upd f k b k = b := by simp [upd]
theorem upd_other {β : Type} (f : Nat → β) (k j : Nat) (b : β) (h : j ≠ k) : upd f k b j = f j := by simp [upd, h]

theorem forall_upd_true {f : Nat → Bool} {Q : Nat → Prop} {k : Nat} (hk : Q k) (hf : ∀ j, f j = true → Q j) :
    ∀ j, upd f k true j = true → Q j := by
  intro j h
  by_cases e : j = k
  · exact e ▸ hk
  · exact hf j (by rwa [upd_other _ _ _ _ e] at h)

/-- a value crosses the border between two neighbouring segments of a stream -/
theorem append_move {β : Type} (x y z : List β) (v : β) : x ++ (y ++ [v]) ++ z = x ++ y ++ v :: z := by
  simp only [List.append_assoc, List.singleton_append]

theorem upd_read {β : Type} {reads buf : Nat → List β} {k : Nat} {v : β} {b : List β} (h : buf k = v :: b) (j : Nat) :
    upd reads k (reads k ++ [v]) j ++ upd buf k b j = reads j ++ buf j := by
  by_cases hjk : j = k
  · rw [hjk, upd_same, upd_same, h]; exact (List.append_cons ..).symm
  · rw [upd_other _ _ _ _ hjk, upd_other _ _ _ _ hjk]

theorem forall_lt_or_exists (n : Nat) (Q : Nat → Prop) : (∀ k, k < n → Q k) ∨ ∃ k, k < n ∧ ¬ Q k :=
  Classical.byCases .inl fun h =>
    .inr (Classical.byContradiction fun hne => h fun k hk => Classical.byContradiction fun hq => hne ⟨k, hk, hq⟩)

variable {P : Type} {close : Nat → P} {done : P}

/-- the closing loop is past output `k`; written as the `noLate` clauses of `ForkInv`, `SplitInv` and `SJInv`
    are, so that they unfold to it -/
def Past (close : Nat → P) (done : P) (p : P) (k : Nat) : Prop := (∃ j, p = close j ∧ k < j) ∨ p = done

variable {p p' : P} {oc : Nat → Bool} {i k n : Nat}

theorem Past.next_of_le (hik : i ≤ k) : Past close done (if k + 1 < n then close (k + 1) else done) i := by
  split
  · exact .inl ⟨k + 1, rfl, Nat.lt_succ_of_le hik⟩
  · exact .inr rfl

/-- what the loop lemmas need of a program-counter type: `close` tells the outputs apart and is never `done` -/
structure ClosingPC (close : Nat → P) (done : P) : Prop where
  inj : ∀ a b, close a = close b → a = b
  ne : ∀ a, close a ≠ done

theorem closingPC_H {α : Type} : ClosingPC (H.close (α := α)) .done := ⟨fun _ _ => H.close.inj, fun _ => nofun⟩
theorem closingPC_HS {α : Type} : ClosingPC (HS.close (α := α)) .done := ⟨fun _ _ => HS.close.inj, fun _ => nofun⟩

theorem Past.le_of_next (pc : ClosingPC close done) (hi : i < n)
    (hp : Past close done (if k + 1 < n then close (k + 1) else done) i) : i ≤ k := by
  by_cases hlast : k + 1 < n
  · rw [if_pos hlast] at hp
    rcases hp with ⟨j, e, hj⟩ | e
    · exact Nat.le_of_lt_succ (Nat.lt_of_lt_of_eq hj (pc.inj _ _ e).symm)
    · exact absurd e (pc.ne _)
  · exact Nat.le_of_lt_succ (Nat.lt_of_lt_of_le hi (Nat.not_lt.mp hlast))

/-- at the call sites `p` is a state's program counter, known through the step's hypothesis `hx`, and `x` the constructor
    it names, for which `hc` and `hd` are `nofun` -/
theorem open_of_not_closing {x : P} (hl : ∀ k, oc k = true → Past close done p k) (hx : p = x)
    (hc : ∀ j, x ≠ close j) (hd : x ≠ done) (k : Nat) : oc k = false :=
  Bool.eq_false_iff.mpr fun ho => (hl k ho).elim (fun ⟨j, e, _⟩ => hc j (hx ▸ e)) (fun e => hd (hx ▸ e))

theorem noLate_of_open {x : P} (hl : ∀ k, oc k = true → Past close done p k) (hx : p = x)
    (hc : ∀ j, x ≠ close j) (hd : x ≠ done) : ∀ k, oc k = true → Past close done p' k :=
  fun k ho => by rw [open_of_not_closing hl hx hc hd k] at ho; cases ho

theorem noLate_close (pc : ClosingPC close done) (hl : ∀ i, oc i = true → Past close done p i) (hx : p = close k) :
    ∀ i, upd oc k true i = true → Past close done (if k + 1 < n then close (k + 1) else done) i := by
  subst hx
  intro i hi
  by_cases e : i = k
  · exact .next_of_le (Nat.le_of_eq e)
  · rw [upd_other _ _ _ _ e] at hi
    rcases hl i hi with ⟨j, ej, hj⟩ | ed
    · exact .next_of_le (Nat.le_of_lt (Nat.lt_of_lt_of_eq hj (pc.inj _ _ ej).symm))
    · exact absurd ed (pc.ne _)

/-- the converse of `noLate`, with the bound of the loop -/
structure Closing (close : Nat → P) (done : P) (n : Nat) (p : P) (oc : Nat → Bool) : Prop where
  lt : ∀ k, p = close k → k < n
  closed : ∀ k, k < n → Past close done p k → oc k = true

theorem Closing.of_not_closing (hc : ∀ j, p ≠ close j) (hd : p ≠ done) : Closing close done n p oc :=
  ⟨fun k e => absurd e (hc k), fun _ _ hp => hp.elim (fun ⟨j, e, _⟩ => absurd e (hc j)) (fun e => absurd e hd)⟩

theorem Closing.start (pc : ClosingPC close done) (hn : 0 < n) : Closing close done n (close 0) oc :=
  ⟨fun _ e => pc.inj _ _ e ▸ hn,
    fun _ _ hp => hp.elim (fun ⟨_, e, hj⟩ => by rw [← pc.inj _ _ e] at hj; cases hj) (fun e => absurd e (pc.ne 0))⟩

theorem Closing.next (pc : ClosingPC close done) (c : Closing close done n p oc) (hx : p = close k) :
    Closing close done n (if k + 1 < n then close (k + 1) else done) (upd oc k true) where
  lt := fun j e => by
    by_cases hlast : k + 1 < n
    · rw [if_pos hlast] at e; exact pc.inj _ _ e ▸ hlast
    · rw [if_neg hlast] at e; exact absurd e.symm (pc.ne j)
  closed := fun i hi hp => by
    by_cases e : i = k
    · rw [e, upd_same]
    · rw [upd_other _ _ _ _ e]
      exact c.closed i hi (.inl ⟨k, hx, Nat.lt_of_le_of_ne (Past.le_of_next pc hi hp) e⟩)

variable {α : Type} {buf : Nat → List α} {rd : Nat → Bool}

/-- a reader that has seen ok = false had a closed and drained queue -/
structure Readers (buf : Nat → List α) (oc rd : Nat → Bool) : Prop where
  closed : ∀ k, rd k = true → oc k = true
  empty : ∀ k, rd k = true → buf k = []

theorem Readers.not_done (r : Readers buf oc rd) (ho : oc k = false) : rd k = false :=
  Bool.eq_false_iff.mpr fun e => by rw [r.closed k e] at ho; cases ho

theorem Readers.set_buf (r : Readers buf oc rd) (hk : rd k = false) (b : List α) : Readers (upd buf k b) oc rd :=
  ⟨r.closed, fun j e => by rw [upd_other _ _ _ _ (fun ejk : j = k => by rw [ejk, hk] at e; cases e)]; exact r.empty j e⟩

theorem Readers.set_closed (r : Readers buf oc rd) (k : Nat) : Readers buf (upd oc k true) rd :=
  ⟨fun j hr => if e : j = k then by rw [e, upd_same] else by rw [upd_other _ _ _ _ e]; exact r.closed j hr, r.empty⟩

theorem Readers.set_done (r : Readers buf oc rd) (hb : buf k = []) (ho : oc k = true) : Readers buf oc (upd rd k true) :=
  ⟨forall_upd_true ho r.closed, forall_upd_true hb r.empty⟩

end CM
