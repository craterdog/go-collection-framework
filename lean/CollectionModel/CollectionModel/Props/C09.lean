/-
  C09 — Sorting yields an ordered permutation for every ranker.
-/
import CollectionModel.Lemmas.SorterLemmas
namespace CM
open CM.Sorter

variable {α : Type}

/-- **for every ranking function – stateful, random or inconsistent – SortValues
    leaves a permutation of the input** (the model is a total function, so the
    call also terminates; see `C09_fuel_irrelevant` for the doubling loop) -/
theorem C09_sort_perm_any_ranker {σ : Type} (rank : σ → α → α → Rank × σ) (st : σ) (xs : List α) :
    (sortValuesM rank st xs).1.Perm xs :=
  sortLoopM_perm rank _ _ _ _

/-- the same for a pure ranker (the model the driver runs) -/
theorem C09_sort_perm (rank : α → α → Rank) (xs : List α) : (sortValues rank xs).Perm xs :=
  sortValues_perm rank xs

/-- **when the ranker is a total preorder the result is ascending**: no earlier
    value ranks Greater than a later one (in particular no adjacent pair) -/
theorem C09_sort_ascending (rank : α → α → Rank) (hr : TotalPreorder rank) (xs : List α) :
    (sortValues rank xs).Pairwise (fun a b => rank a b ≠ .gt) :=
  sortValues_asc rank hr xs

/-- the doubling loop stops because the width reached the length, not because the
    model's fuel ran out: more fuel changes nothing -/
theorem C09_fuel_irrelevant (rank : α → α → Rank) :
    ∀ f w (xs : List α), 0 < w → xs.length ≤ w * 2^f → sortLoop rank (f+1) w xs = sortLoop rank f w xs := by
  intro f w xs hw h
  fun_induction sortLoop rank f w xs with
  | case1 w xs => rw [sortLoop, if_neg (Nat.not_lt.mpr (by simpa using h))]
  | case2 f w xs hlt ih =>
    rw [sortLoop, if_pos hlt]
    exact ih (Nat.mul_pos (by decide) hw) (by rw [mergePass_length]; exact le_double h)
  | case3 f w xs hnot => rw [sortLoop, if_neg hnot]

/-- **ReverseValues reverses exactly** -/
theorem C09_reverse [Inhabited α] (l : List α) : reverseValues l = l.reverse := reverseValues_eq l

/-- **applying ReverseValues twice is the identity** -/
theorem C09_reverse_involutive [Inhabited α] (l : List α) : reverseValues (reverseValues l) = l := by
  rw [reverseValues_eq, reverseValues_eq, List.reverse_reverse]

/-- **ShuffleValues yields a permutation** (random indices in `[0,size)`, one per position) -/
theorem C09_shuffle_perm [Inhabited α] (rs : List Nat) (l : List α)
    (h1 : rs.length ≤ l.length) (h2 : ∀ r ∈ rs, r < l.length) : (shuffleValues rs l).Perm l :=
  shuffleValues_perm rs l h1 h2

/-- **the Sort methods of Array, List and Catalog have the same effect as the
    sorter on the equivalent Go array** (the `size > 1` guard only skips inputs
    on which the sorter is the identity) -/
theorem C09_collection_sort_delegates (rank : α → α → Rank) (l : List α) :
    arraySort rank l = sortValues rank l := arraySort_eq rank l

/-- non-vacuity: `rankInt` is a total preorder and an inconsistent ranker is still permuted -/
example : TotalPreorder rankInt := rankInt_total
example : sortValues rankInt [5, 3, 9, 1, 1, 8] = [1, 1, 3, 5, 8, 9] := by
  simp [sortValues, sortLoop, mergePass, merge, rankInt]
example : (sortValues (fun (_ _ : Int) => Rank.lt) [5, 3, 9, 1]).length = 4 := by
  simp [sortValues, sortLoop, mergePass, merge]

end CM
