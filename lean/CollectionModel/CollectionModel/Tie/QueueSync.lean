/-
  T2 obligations over the synchronisation skeleton of `queue_` regenerated from
  collection/queue.go (Generated/QueueSync.lean): for every method, in source order, the lock
  and unlock calls, the channel operations on `available_`, the accesses to the guarded
  fields and the control structure around them.

  The transition system of Model/Queue.lean takes exactly these regions as its atomic steps
  (one Lock…Unlock section = one step; a send, a receive = one step each, outside any
  section).  `queue_sync_tie` pins the skeleton the model was written from;
  `queue_lock_discipline` states the discipline itself, computed from whatever the source says
  now: every access to `values_` and every replacement, close or length read of `available_`
  happens inside a Lock…Unlock section of a plain `sync.Mutex`, and no method sends or
  receives while holding the lock (a blocked channel operation inside the section would
  wedge every other caller).
-/
import CollectionModel.Generated.QueueSync
namespace CM
namespace Tie

def expectedQueueSync : List (String × List (String × String)) := [
  ("AddValue", [("call:mutex_", "Lock"), ("call:values_", "AppendValue"), ("call:mutex_", "Unlock"), ("send", "available_")]),
  ("AsArray", [("call:mutex_", "Lock"), ("call:values_", "AsArray"), ("call:mutex_", "Unlock"), ("return", "")]),
  ("CloseQueue", [("call:mutex_", "Lock"), ("close", "available_"), ("call:mutex_", "Unlock")]),
  ("GetCapacity", [("read", "capacity_"), ("return", "")]),
  ("GetClass", [("return", "")]),
  ("GetIterator", [("call:mutex_", "Lock"), ("call:values_", "GetIterator"), ("call:mutex_", "Unlock"), ("return", "")]),
  ("GetSize", [("call:mutex_", "Lock"), ("len", "available_"), ("call:mutex_", "Unlock"), ("return", "")]),
  ("IsEmpty", [("call:mutex_", "Lock"), ("len", "available_"), ("call:mutex_", "Unlock"), ("return", "")]),
  ("RemoveAll", [("call:mutex_", "Lock"), ("read", "capacity_"), ("write", "available_"), ("read", "GetClass"), ("write", "values_"), ("call:mutex_", "Unlock")]),
  ("RemoveHead", [("recv", "available_"), ("if{", ""), ("call:mutex_", "Lock"), ("call:values_", "RemoveValue"), ("call:mutex_", "Unlock"), ("}", ""), ("return", "")]),
  ("String", [("read", "GetClass"), ("return", "")])
]

/-- the methods of `queue_` synchronise exactly as the model's atomic steps assume -/
theorem queue_sync_tie : Generated.queueSync = expectedQueueSync ∧ Generated.queueMutexType = "Mutex" := ⟨rfl, rfl⟩

/-- an event that must happen inside a Lock…Unlock section: any use of the value list, and
    replacing, closing or measuring the token channel -/
def guarded (e : String × String) : Bool :=
  e.1 == "call:values_" || (e.1 == "write" && e.2 == "values_") || (e.1 == "read" && e.2 == "values_") ||
  ((e.1 == "write" || e.1 == "close" || e.1 == "len" || e.1 == "cap" || e.1 == "read") && e.2 == "available_")

/-- an event that may block and therefore must happen outside every section -/
def blocking (e : String × String) : Bool := (e.1 == "send" || e.1 == "recv") && e.2 == "available_"

/-- scan one method: `locked` is whether the mutex is held; any other use of the mutex
    (RLock, TryLock, a deferred unlock, a lock inside a closure or goroutine) is refused -/
def disciplined : Bool → List (String × String) → Bool
  | locked, [] => !locked
  | locked, e :: es =>
    if e.1 == "call:mutex_" && e.2 == "Lock" then !locked && disciplined true es
    else if e.1 == "call:mutex_" && e.2 == "Unlock" then locked && disciplined false es
    else if e.1 == "call:mutex_" || e.2 == "mutex_" || e.1 == "defer{" || e.1 == "go{" || e.1 == "func{" then false
    else if guarded e then locked && disciplined locked es
    else if blocking e then !locked && disciplined locked es
    else if e.1 == "return" then !locked && disciplined locked es
    else disciplined locked es

/-- **lock discipline of the queue, as the source is now** -/
theorem queue_lock_discipline :
    Generated.queueMutexType = "Mutex" ∧ Generated.queueSync.all (fun m => disciplined false m.2) = true := by
  decide +kernel

/-- the checker is not vacuous: it rejects a receive inside the section, a read lock, an unguarded pop -/
example : disciplined false [("call:mutex_", "Lock"), ("recv", "available_"), ("call:values_", "RemoveValue"), ("call:mutex_", "Unlock")] = false := by decide
example : disciplined false [("recv", "available_"), ("call:mutex_", "RLock"), ("call:values_", "RemoveValue"), ("call:mutex_", "RUnlock")] = false := by decide
example : disciplined false [("recv", "available_"), ("call:values_", "RemoveValue")] = false := by decide
example : disciplined false [("recv", "available_"), ("if{", ""), ("call:mutex_", "Lock"), ("call:values_", "RemoveValue"), ("call:mutex_", "Unlock"), ("}", ""), ("return", "")] = true := by decide

/-- the call skeleton of the three class functions, as the network models of Model/Pipes*.lean
    follow it: create the outputs, `group.Add(1)`, start the helper, whose loop is receive /
    send (to all outputs, or to the one the iterator points at) and which closes every output
    after the input was closed -/
def expectedPipeSync : List (String × List (String × String)) := [
  ("Fork", [("if{", ""), ("}", ""), ("call:input", "GetCapacity"), ("read", "notation_"), ("for{", ""), ("call:self", "MakeWithCapacity"), ("call:outputs", "AppendValue"), ("}", ""), ("call:group", "Add"), ("go{", ""), ("func{", ""), ("defer{", ""), ("call:group", "Done"), ("}", ""), ("call:outputs", "GetIterator"), ("for{", ""), ("call:input", "RemoveHead"), ("if{", ""), ("break", ""), ("}", ""), ("call:iterator", "ToStart"), ("for{", ""), ("call:iterator", "HasNext"), ("call:iterator", "GetNext"), ("call:output", "AddValue"), ("}", ""), ("}", ""), ("call:iterator", "ToStart"), ("for{", ""), ("call:iterator", "HasNext"), ("call:iterator", "GetNext"), ("call:output", "CloseQueue"), ("}", ""), ("}", ""), ("}", ""), ("return", "")]),
  ("Join", [("call:age", "Inspector"), ("call:inspector", "IsDefined"), ("call:inputs", "IsEmpty"), ("if{", ""), ("}", ""), ("call:inputs", "GetIterator"), ("call:iterator", "GetNext"), ("call:self", "MakeWithCapacity"), ("call:group", "Add"), ("go{", ""), ("func{", ""), ("defer{", ""), ("call:group", "Done"), ("}", ""), ("call:iterator", "ToStart"), ("for{", ""), ("call:iterator", "GetNext"), ("call:input", "RemoveHead"), ("if{", ""), ("break", ""), ("}", ""), ("call:output", "AddValue"), ("call:iterator", "HasNext"), ("if{", ""), ("call:iterator", "ToStart"), ("}", ""), ("}", ""), ("call:output", "CloseQueue"), ("}", ""), ("}", ""), ("return", "")]),
  ("Split", [("if{", ""), ("}", ""), ("call:input", "GetCapacity"), ("read", "notation_"), ("for{", ""), ("call:self", "MakeWithCapacity"), ("call:outputs", "AppendValue"), ("}", ""), ("call:group", "Add"), ("go{", ""), ("func{", ""), ("defer{", ""), ("call:group", "Done"), ("}", ""), ("call:outputs", "GetIterator"), ("for{", ""), ("call:input", "RemoveHead"), ("if{", ""), ("break", ""), ("}", ""), ("call:iterator", "GetNext"), ("call:output", "AddValue"), ("call:iterator", "HasNext"), ("if{", ""), ("call:iterator", "ToStart"), ("}", ""), ("}", ""), ("call:iterator", "ToStart"), ("for{", ""), ("call:iterator", "HasNext"), ("call:iterator", "GetNext"), ("call:output", "CloseQueue"), ("}", ""), ("}", ""), ("}", ""), ("return", "")])
]

theorem pipe_sync_tie : Generated.pipeSync = expectedPipeSync := rfl

/-- the helper is registered with the caller's wait group before it is started, and the first
    thing it does is to defer `group.Done()`; there is exactly one helper -/
def registered (evs : List (String × String)) : Bool :=
  let pre := evs.takeWhile (fun e => e != ("go{", ""))
  let post := evs.dropWhile (fun e => e != ("go{", ""))
  pre.contains ("call:group", "Add") && !pre.contains ("call:group", "Done") &&
  post.take 5 == [("go{", ""), ("func{", ""), ("defer{", ""), ("call:group", "Done"), ("}", "")] &&
  !(post.drop 5).contains ("call:group", "Add") && !(post.drop 5).contains ("call:group", "Done") &&
  !(post.drop 1).contains ("go{", "")

/-- **wait-group registration, as the source is now**: what the termination theorems
    (`C06_*_terminates`: the helper reaches `group.Done()`) need in order to conclude that the
    caller's `Wait()` returns, and returns only after the helper has finished -/
theorem pipe_registration : Generated.pipeSync.all (fun m => registered m.2) = true := by
  decide +kernel

example : registered [("go{", ""), ("func{", ""), ("call:group", "Add"), ("defer{", ""), ("call:group", "Done"), ("}", ""), ("}", "")] = false := by decide

/-- the skeleton the parser model's assumption rests on ("the parser reads exactly `scan src`
    from a fresh single-producer single-consumer queue, and nothing of one call survives into the
    next"): `ParseSource` replaces the token queue and the push-back stack before it starts the
    scanner, drains the queue synchronously on the way out; `Scanner.Make` starts exactly one
    goroutine; `scanTokens` ends with the EOF token and closes the queue -/
def expectedCdcnSync : List (String × List (String × String)) := [
  ("parser_.ParseSource", [("call:Notation()", "Make"), ("write", "source_"), ("write", "tokens_"), ("write", "next_"), ("read", "source_"), ("read", "tokens_"), ("call:Scanner()", "Make"), ("defer{", ""), ("func{", ""), ("for{", ""), ("call:tokens_", "RemoveHead"), ("if{", ""), ("break", ""), ("}", ""), ("}", ""), ("}", ""), ("}", ""), ("call:self", "parseCollection"), ("if{", ""), ("call:self", "formatError"), ("call:self", "generateSyntax"), ("}", ""), ("for{", ""), ("call:self", "parseToken"), ("}", ""), ("call:self", "parseToken"), ("if{", ""), ("call:self", "formatError"), ("call:self", "generateSyntax"), ("}", ""), ("return", "")]),
  ("scannerClass_.Make", [("go{", ""), ("call:scanner", "scanTokens"), ("}", ""), ("return", "")]),
  ("scanner_.emitToken", [("read", "runes_"), ("read", "first_"), ("read", "next_"), ("switch{", ""), ("case{", ""), ("}", ""), ("case{", ""), ("}", ""), ("case{", ""), ("}", ""), ("case{", ""), ("}", ""), ("case{", ""), ("}", ""), ("case{", ""), ("}", ""), ("case{", ""), ("}", ""), ("case{", ""), ("}", ""), ("}", ""), ("read", "line_"), ("read", "position_"), ("call:Token()", "Make"), ("call:tokens_", "AddValue")]),
  ("scanner_.foundEOF", [("call:self", "emitToken")]),
  ("scanner_.foundError", [("read", "next_"), ("call:self", "emitToken")]),
  ("scanner_.scanTokens", [("for{", ""), ("read", "next_"), ("len", "runes_"), ("switch{", ""), ("call:self", "foundToken"), ("case{", ""), ("}", ""), ("call:self", "foundToken"), ("case{", ""), ("}", ""), ("call:self", "foundToken"), ("case{", ""), ("}", ""), ("call:self", "foundToken"), ("case{", ""), ("}", ""), ("call:self", "foundToken"), ("case{", ""), ("}", ""), ("call:self", "foundToken"), ("case{", ""), ("}", ""), ("call:self", "foundToken"), ("case{", ""), ("}", ""), ("call:self", "foundToken"), ("case{", ""), ("}", ""), ("call:self", "foundToken"), ("case{", ""), ("}", ""), ("call:self", "foundToken"), ("case{", ""), ("}", ""), ("call:self", "foundToken"), ("case{", ""), ("}", ""), ("call:self", "foundToken"), ("case{", ""), ("}", ""), ("case{", ""), ("call:self", "foundError"), ("break", ""), ("}", ""), ("}", ""), ("}", ""), ("call:self", "foundEOF"), ("call:tokens_", "CloseQueue")])
]

theorem cdcn_sync_tie : Generated.cdcnSync = expectedCdcnSync := rfl

def eventsOf (name : String) : List (String × String) :=
  ((Generated.cdcnSync.find? (fun m => m.1 == name)).map (·.2)).getD []

/-- **per-call state and a synchronous drain, as the source is now** -/
def parseSourceDisciplined (evs : List (String × String)) : Bool :=
  let pre := evs.takeWhile (fun e => e != ("call:Scanner()", "Make"))
  let post := (evs.dropWhile (fun e => e != ("call:Scanner()", "Make"))).drop 1
  pre.contains ("write", "tokens_") && pre.contains ("write", "next_") &&
  post.take 4 == [("defer{", ""), ("func{", ""), ("for{", ""), ("call:tokens_", "RemoveHead")] &&
  !evs.contains ("go{", "") && !(post.contains ("write", "tokens_")) && !(post.contains ("write", "next_"))

theorem cdcn_goroutine_discipline :
    parseSourceDisciplined (eventsOf "parser_.ParseSource") = true ∧
    (eventsOf "scannerClass_.Make").count ("go{", "") = 1 ∧
    (eventsOf "scanner_.scanTokens").reverse.take 2 = [("call:tokens_", "CloseQueue"), ("call:self", "foundEOF")] ∧
    (eventsOf "scanner_.emitToken").getLast? = some ("call:tokens_", "AddValue") := by
  decide +kernel

end Tie
end CM
