/-
  Bounded runs and termination of a transition system from a natural-number measure that every
  step out of an invariant state decreases.  The queue program (C05) and the three pipe networks
  (C06) are instances.
-/
namespace CM

inductive Steps {σ : Type} (R : σ → σ → Prop) : σ → Nat → σ → Prop
  | zero (s : σ) : Steps R s 0 s
  | succ {s t u : σ} {m : Nat} : R s t → Steps R t m u → Steps R s (m + 1) u

variable {σ : Type} {R : σ → σ → Prop} {I F : σ → Prop} {μ : σ → Nat}

theorem Steps.bounded (inv : ∀ s t, I s → R s t → I t) (dec : ∀ s t, I s → R s t → μ t < μ s)
    {s u : σ} {m : Nat} (run : Steps R s m u) (h0 : I s) : I u ∧ m + μ u ≤ μ s := by
  induction run with
  | zero => exact ⟨h0, Nat.le_of_eq (Nat.zero_add _)⟩
  | succ hs _ ih =>
    obtain ⟨hu, hb⟩ := ih (inv _ _ h0 hs)
    exact ⟨hu, by rw [Nat.add_right_comm]; exact Nat.lt_of_le_of_lt hb (dec _ _ h0 hs)⟩

theorem Steps.terminates (inv : ∀ s t, I s → R s t → I t) (dec : ∀ s t, I s → R s t → μ t < μ s)
    (prog : ∀ s, I s → F s ∨ ∃ t, R s t) {s u : σ} {m : Nat} (run : Steps R s m u) (h0 : I s) :
    m ≤ μ s ∧ I u ∧ ((¬ ∃ t, R u t) → F u) := by
  obtain ⟨hu, hb⟩ := Steps.bounded inv dec run h0
  exact ⟨Nat.le_trans (Nat.le_add_right ..) hb, hu, fun stuck => (prog _ hu).resolve_right stuck⟩

end CM
