/-
  Association lists as finite maps, read through `lookup`.  The specification's `specSet` / `specDel`
  are `mset` / `mremove`, and a catalog satisfying `CatInv` is two such lists denoting one map, on
  which every catalog operation is the map operation on both components.
-/
import CollectionModel.Model.AssocOps
import CollectionModel.Lemmas.SeqLemmas
namespace CM
namespace Assoc
open CM.Seq

variable {K V : Type}

def NodupKeys (m : List (K × V)) : Prop := (m.map (·.1)).Nodup

theorem nodupKeys_nil : NodupKeys ([] : List (K × V)) := List.nodup_nil

/- from `b` to `a`, so that `h.perm hp` reads through dot notation on `h` (core's `List.Perm.nodup` goes the other way) -/
theorem NodupKeys.perm {a b : List (K × V)} (hp : a.Perm b) (h : NodupKeys b) : NodupKeys a :=
  (hp.map _).nodup_iff.mpr h

variable [DecidableEq K]

@[simp] theorem lookup_nil (k : K) : lookup k ([] : List (K × V)) = none := rfl

@[simp] theorem lookup_cons (k : K) (p : K × V) (m : List (K × V)) :
    lookup k (p :: m) = if p.1 = k then some p.2 else lookup k m := rfl

theorem lookup_append (k : K) (a b : List (K × V)) : lookup k (a ++ b) = (lookup k a).or (lookup k b) := by
  induction a with
  | nil => rfl
  | cons p a ih => rw [List.cons_append, lookup_cons, lookup_cons, ih]; split <;> rfl

theorem lookup_none_iff {k : K} {m : List (K × V)} : lookup k m = none ↔ ∀ p ∈ m, p.1 ≠ k := by
  induction m with
  | nil => simp
  | cons p m ih =>
    rw [lookup_cons, List.forall_mem_cons, ← ih]
    by_cases h : p.1 = k
    · simp only [h, if_true, ne_eq, not_true, false_and, reduceCtorEq]
    · simp only [h, if_false, ne_eq, not_false_iff, true_and]

theorem mem_keys_iff {k : K} {m : List (K × V)} : k ∈ m.map (·.1) ↔ (lookup k m).isSome := by
  induction m with
  | nil => simp
  | cons p m ih =>
    rw [List.map_cons, List.mem_cons, lookup_cons, ih]
    by_cases h : p.1 = k
    · simp [h]
    · simp [h, Ne.symm h]

theorem lookup_mem {k : K} {v : V} {m : List (K × V)} (h : lookup k m = some v) : (k, v) ∈ m := by
  induction m with
  | nil => cases h
  | cons p m ih =>
    rw [lookup_cons] at h
    split at h
    · next hk => cases h; exact hk ▸ List.mem_cons_self
    · exact List.mem_cons_of_mem _ (ih h)

theorem nodupKeys_cons {p : K × V} {m : List (K × V)} :
    NodupKeys (p :: m) ↔ lookup p.1 m = none ∧ NodupKeys m := by
  unfold NodupKeys
  rw [List.map_cons, List.nodup_cons, mem_keys_iff, Option.not_isSome_iff_eq_none]

theorem nodupKeys_append {a b : List (K × V)} :
    NodupKeys (a ++ b) ↔ NodupKeys a ∧ NodupKeys b ∧ ∀ p ∈ b, lookup p.1 a = none := by
  unfold NodupKeys
  simp only [List.map_append, List.nodup_append, lookup_none_iff, List.mem_map]
  constructor
  · rintro ⟨ha, hb, h⟩
    exact ⟨ha, hb, fun p hp q hq => h _ ⟨q, hq, rfl⟩ _ ⟨p, hp, rfl⟩⟩
  · rintro ⟨ha, hb, h⟩
    refine ⟨ha, hb, ?_⟩
    rintro _ ⟨q, hq, rfl⟩ _ ⟨p, hp, rfl⟩
    exact h p hp q hq

theorem lookup_of_mem {k : K} {v : V} {m : List (K × V)} (hn : NodupKeys m) (h : (k, v) ∈ m) :
    lookup k m = some v := by
  induction m with
  | nil => cases h
  | cons p m ih =>
    rw [nodupKeys_cons] at hn
    rw [lookup_cons]
    rcases List.mem_cons.mp h with rfl | h
    · exact if_pos rfl
    · rw [if_neg fun e => lookup_none_iff.mp hn.1 _ h e.symm]; exact ih hn.2 h

theorem all_iff_lookup {m : List (K × V)} (hn : NodupKeys m) (f : K × V → Bool) :
    m.all f = true ↔ ∀ k v, lookup k m = some v → f (k, v) = true := by
  rw [List.all_eq_true]
  exact ⟨fun h k v hl => h _ (lookup_mem hl), fun h p hp => h p.1 p.2 (lookup_of_mem hn hp)⟩

theorem lookup_perm {a b : List (K × V)} (hp : a.Perm b) (hn : NodupKeys a) (k : K) : lookup k a = lookup k b := by
  cases h : lookup k b with
  | some v => exact lookup_of_mem hn (hp.mem_iff.mpr (lookup_mem h))
  | none => exact lookup_none_iff.mpr fun p hp' => lookup_none_iff.mp h p (hp.mem_iff.mp hp')

theorem lookup_reverse (l : List (K × V)) (h : NodupKeys l) (k : K) : lookup k l.reverse = lookup k l :=
  lookup_perm (List.reverse_perm l) (h.perm (List.reverse_perm l)) k

theorem mset_fresh {m : List (K × V)} {k : K} (h : lookup k m = none) (v : V) : mset m k v = m ++ [(k, v)] := by
  simp only [mset, h]

/- `mset` and `catSetValue` both apply this replacement in place when the key is there -/
theorem keys_map_replace (m : List (K × V)) (k : K) (v : V) :
    (m.map (fun p => if p.1 = k then (k, v) else p)).map (·.1) = m.map (·.1) := by
  rw [List.map_map]
  exact List.map_congr_left fun p _ => by dsimp only [Function.comp]; split <;> simp [*]

theorem lookup_map_replace (m : List (K × V)) (k k' : K) (v : V) :
    lookup k' (m.map (fun p => if p.1 = k then (k, v) else p)) =
      if k' = k then (lookup k m).map (fun _ => v) else lookup k' m := by
  induction m with
  | nil => simp
  | cons p m ih =>
    simp only [List.map_cons, lookup_cons, ih]
    by_cases h1 : p.1 = k
    · by_cases h2 : k' = k
      · simp [h1, h2]
      · simp [h1, h2, Ne.symm h2]
    · by_cases h2 : k' = k <;> simp [h1, h2]

theorem lookup_mset (m : List (K × V)) (k k' : K) (v : V) :
    lookup k' (mset m k v) = if k' = k then some v else lookup k' m := by
  unfold mset
  cases h : lookup k m with
  | some x => simp only [lookup_map_replace, h, Option.map_some]
  | none =>
    simp only [lookup_append, lookup_cons, lookup_nil]
    by_cases h2 : k' = k
    · simp [h2, h]
    · cases lookup k' m <;> simp [h2, Ne.symm h2]

theorem lookup_mremove (m : List (K × V)) (k k' : K) :
    lookup k' (mremove m k) = if k' = k then none else lookup k' m := by
  induction m with
  | nil => simp [mremove]
  | cons p m ih =>
    simp only [mremove, List.filter_cons] at ih ⊢
    by_cases h1 : p.1 = k
    · simp only [h1, decide_true, Bool.not_true, Bool.false_eq_true, if_false, ih, lookup_cons]
      by_cases h2 : k' = k
      · simp [h2]
      · simp [h2, Ne.symm h2]
    · simp only [h1, decide_false, Bool.not_false, if_true, lookup_cons, ih]
      by_cases h2 : p.1 = k'
      · subst h2; simp [h1]
      · simp [h2]

theorem mremove_absent {m : List (K × V)} {k : K} (h : lookup k m = none) : mremove m k = m :=
  List.filter_eq_self.mpr fun p hp => by simpa using lookup_none_iff.mp h p hp

theorem NodupKeys.mset {m : List (K × V)} (h : NodupKeys m) (k : K) (v : V) : NodupKeys (mset m k v) := by
  unfold Assoc.mset
  cases hl : lookup k m with
  | some x => unfold NodupKeys; rwa [keys_map_replace]
  | none => exact nodupKeys_append.mpr ⟨h, by simp [NodupKeys], by simpa using hl⟩

theorem NodupKeys.mremove {m : List (K × V)} (h : NodupKeys m) (k : K) : NodupKeys (mremove m k) :=
  List.Nodup.sublist (List.filter_sublist.map _) h

theorem specSet_eq_mset (l : List (K × V)) (k : K) (v : V) : specSet l k v = mset l k v := by
  unfold specSet mset
  have : l.any (fun p => p.1 = k) = (lookup k l).isSome := by
    rw [Bool.eq_iff_iff, ← mem_keys_iff]; simp
  rw [this]
  cases lookup k l <;> rfl

theorem specDel_eq_mremove : (specDel : List (K × V) → K → List (K × V)) = mremove := rfl

theorem mapRemoveValue_eq [Inhabited V] (m : List (K × V)) (k : K) :
    mapRemoveValue m k = ((lookup k m).getD default, mremove m k) := by
  unfold mapRemoveValue
  cases h : lookup k m with
  | some v => rfl
  | none => rw [mremove_absent h]; rfl

theorem mapRemoveValues_eq [Inhabited V] : ∀ (ks : List K) (m : List (K × V)),
    mapRemoveValues m ks = (specRemoved m ks, ks.foldl mremove m)
  | [], _ => rfl
  | k :: ks, m => by
    simp only [mapRemoveValues, mapRemoveValue_eq, mapRemoveValues_eq ks, specRemoved, List.foldl_cons]; rfl

theorem lookup_foldl_mremove (k' : K) : ∀ (ks : List K) (m : List (K × V)),
    lookup k' (ks.foldl mremove m) = if k' ∈ ks then none else lookup k' m
  | [], _ => rfl
  | k :: ks, m => by
    rw [List.foldl_cons, lookup_foldl_mremove k' ks, lookup_mremove]
    by_cases h : k' = k <;> simp [h]

theorem NodupKeys.foldl_mremove {m : List (K × V)} (h : NodupKeys m) (ks : List K) :
    NodupKeys (ks.foldl Assoc.mremove m) :=
  ks.foldlRecOn _ h fun _ hm k _ => hm.mremove k

theorem lookup_foldl_mset (k : K) : ∀ (ps acc : List (K × V)),
    lookup k (ps.foldl (fun m p => mset m p.1 p.2) acc) = (lookup k ps.reverse).or (lookup k acc)
  | [], _ => rfl
  | p :: ps, acc => by
    rw [List.foldl_cons, lookup_foldl_mset k ps, lookup_mset, List.reverse_cons, lookup_append]
    cases lookup k ps.reverse <;> simp only [Option.or, lookup_cons, lookup_nil, eq_comm]
    split <;> rfl

theorem NodupKeys.foldl_mset {acc : List (K × V)} (h : NodupKeys acc) (ps : List (K × V)) :
    NodupKeys (ps.foldl (fun m p => Assoc.mset m p.1 p.2) acc) :=
  ps.foldlRecOn _ h fun _ hm p _ => hm.mset p.1 p.2

theorem keys_mset (m : List (K × V)) (k : K) (v : V) :
    (mset m k v).map (·.1) = if k ∈ m.map (·.1) then m.map (·.1) else m.map (·.1) ++ [k] := by
  simp only [mset, mem_keys_iff]
  cases lookup k m with
  | some x => exact keys_map_replace m k v
  | none => exact List.map_append

theorem keys_foldl_mset : ∀ (ps acc : List (K × V)), NodupKeys ps →
    (ps.foldl (fun m p => mset m p.1 p.2) acc).map (·.1) =
      acc.map (·.1) ++ (ps.map (·.1)).filter (fun k => !(acc.map (·.1)).contains k)
  | [], acc, _ => (List.append_nil _).symm
  | p :: ps, acc, hn => by
    rw [nodupKeys_cons, ← Option.not_isSome_iff_eq_none, ← mem_keys_iff] at hn
    rw [List.foldl_cons, keys_foldl_mset ps _ hn.2, keys_mset, List.map_cons, List.filter_cons]
    by_cases h : p.1 ∈ acc.map (·.1)
    · rw [if_pos h, List.contains_eq_mem, decide_eq_true h]; rfl
    · -- `p.1` joins the old keys; no later key equals it, so the filter does not notice
      have hps : ∀ x ∈ ps.map (·.1), (!(acc.map (·.1) ++ [p.1]).contains x) = !(acc.map (·.1)).contains x :=
        fun x hx => by
          have : x ≠ p.1 := fun e => hn.1 (e ▸ hx)
          simp only [List.contains_eq_mem, List.mem_append, List.mem_singleton, this, or_false]
      rw [if_neg h, List.filter_congr hps, List.contains_eq_mem, decide_eq_false h, List.append_assoc]; rfl

theorem foldl_mset_fresh : ∀ (ps acc : List (K × V)), NodupKeys (acc ++ ps) →
    ps.foldl (fun m p => mset m p.1 p.2) acc = acc ++ ps
  | [], acc, _ => (List.append_nil acc).symm
  | p :: ps, acc, hn => by
    have hp : lookup p.1 acc = none := (nodupKeys_append.mp hn).2.2 p List.mem_cons_self
    rw [List.foldl_cons, mset_fresh hp, foldl_mset_fresh ps _ (by simpa using hn), List.append_assoc]; rfl

theorem mapMakeFrom_fresh {ps : List (K × V)} (h : NodupKeys ps) : mapMakeFrom ps = ps :=
  foldl_mset_fresh ps [] h

/-- the catalog's representation invariant: the list and the key index hold the
    same associations and no key occurs twice -/
structure CatInv (c : Cat K V) : Prop where
  nodupA : NodupKeys c.assocs
  nodupK : NodupKeys c.keys
  same : ∀ k, lookup k c.keys = lookup k c.assocs

theorem catEmpty_inv : CatInv (catEmpty : Cat K V) := ⟨nodupKeys_nil, nodupKeys_nil, fun _ => rfl⟩

/-- the executable test `coherent` of the specification accepts a catalog that satisfies the invariant -/
theorem coherent_of_inv [DecidableEq V] (c : Cat K V) (h : CatInv c) : coherent c = true := by
  simp only [coherent, sameMap, Bool.and_eq_true, decide_eq_true_eq, beq_iff_eq, all_iff_lookup h.nodupA,
    all_iff_lookup h.nodupK, h.same]
  -- by `h.same` both sweeps of `sameMap` ask `lookup k c.assocs = some v → lookup k c.assocs = some v`
  exact ⟨h.nodupA, ⟨⟨h.nodupA, h.nodupK⟩, fun _ _ => id⟩, fun _ _ => id⟩

theorem CatInv.mset {c : Cat K V} (h : CatInv c) (k : K) (v : V) :
    CatInv ⟨mset c.assocs k v, mset c.keys k v⟩ :=
  ⟨h.nodupA.mset k v, h.nodupK.mset k v, fun k' => by simp only [lookup_mset, h.same]⟩

theorem CatInv.mremove {c : Cat K V} (h : CatInv c) (k : K) :
    CatInv ⟨mremove c.assocs k, mremove c.keys k⟩ :=
  ⟨h.nodupA.mremove k, h.nodupK.mremove k, fun k' => by simp only [lookup_mremove, h.same]⟩

/-- `SetValue` asks the key index and updates the list to match; as the two agree, this is `mset` on both -/
theorem catSetValue_eq {c : Cat K V} (h : CatInv c) (k : K) (v : V) :
    catSetValue c k v = ⟨mset c.assocs k v, mset c.keys k v⟩ := by
  unfold catSetValue Assoc.mset
  rw [h.same k]
  cases lookup k c.assocs <;> rfl

theorem keyIndexFrom_spec (k : K) : ∀ (l : List (K × V)) (i : Nat), NodupKeys l → lookup k l ≠ none →
    ∃ p, keyIndexFrom k i l = i + p + 1 ∧ p < l.length ∧ l.eraseIdx p = mremove l k
  | [], _, _, h => absurd rfl h
  | q :: rest, i, hn, h => by
    rw [nodupKeys_cons] at hn
    by_cases e : q.1 = k
    · exact ⟨0, if_pos e, Nat.zero_lt_succ _,
        by simp only [mremove, List.filter_cons, e, decide_true, Bool.not_true]; exact (mremove_absent (e ▸ hn.1)).symm⟩
    · rw [lookup_cons, if_neg e] at h
      obtain ⟨p, h1, h2, h3⟩ := keyIndexFrom_spec k rest (i + 1) hn.2 h
      refine ⟨p + 1, by rw [keyIndexFrom, if_neg e, h1, Nat.succ_add_eq_add_succ], Nat.succ_lt_succ h2, ?_⟩
      simp only [List.eraseIdx_cons_succ, h3, mremove, List.filter_cons, e, decide_false, Bool.not_false, if_true]

/-- `RemoveValue` finds the association by its key and cuts it out of the list by position;
    with distinct keys that is `mremove` -/
theorem catRemoveValue_eq [Inhabited V] [Inhabited K] {c : Cat K V} (h : CatInv c) (k : K) :
    catRemoveValue c k = .ok ((lookup k c.assocs).getD default, ⟨mremove c.assocs k, mremove c.keys k⟩) := by
  unfold catRemoveValue
  rw [h.same k]
  cases hl : lookup k c.assocs with
  | none => rw [mremove_absent hl, mremove_absent ((h.same k).trans hl)]; rfl
  | some old =>
    obtain ⟨p, h1, h2, h3⟩ := keyIndexFrom_spec k c.assocs 0 h.nodupA (by simp [hl])
    simp only [h1, Nat.zero_add, Int.natCast_add, Int.natCast_one, removeValue_eq, toZeroBased_succ h2, Except.map, h3]
    rfl

theorem catRemoveValues_eq [Inhabited V] [Inhabited K] : ∀ (ks : List K) {c : Cat K V}, CatInv c →
    catRemoveValues c ks = .ok (specRemoved c.assocs ks, ⟨ks.foldl mremove c.assocs, ks.foldl mremove c.keys⟩)
  | [], _, _ => rfl
  | k :: ks, _, h => by
    simp only [catRemoveValues, catRemoveValue_eq h, catRemoveValues_eq ks (h.mremove k), specRemoved, List.foldl_cons]
    rfl

theorem CatInv.foldl_mremove : ∀ {c : Cat K V}, CatInv c → ∀ ks : List K,
    CatInv ⟨ks.foldl Assoc.mremove c.assocs, ks.foldl Assoc.mremove c.keys⟩
  | _, h, [] => h
  | _, h, k :: ks => CatInv.foldl_mremove (h.mremove k) ks

theorem CatInv.foldl {β : Type} (g : Cat K V → β → Cat K V) (f : List (K × V) → β → List (K × V))
    (hg : ∀ c x, CatInv c → CatInv (g c x) ∧ (g c x).assocs = f c.assocs x) :
    ∀ (xs : List β) (c : Cat K V), CatInv c → CatInv (xs.foldl g c) ∧ (xs.foldl g c).assocs = xs.foldl f c.assocs
  | [], _, h => ⟨h, rfl⟩
  | x :: xs, c, h => by
    have := CatInv.foldl g f hg xs _ (hg c x h).1
    rwa [(hg c x h).2] at this

theorem catMakeFrom_spec (ps : List (K × V)) :
    CatInv (catMakeFrom ps) ∧ (catMakeFrom ps).assocs = mapMakeFrom ps :=
  CatInv.foldl _ _ (fun c p h => by rw [catSetValue_eq h]; exact ⟨h.mset p.1 p.2, rfl⟩) ps catEmpty catEmpty_inv

theorem catMerge_eq (a b : List (K × V)) : catMerge a b = catMakeFrom (a ++ b) := by
  rw [catMerge, catMakeFrom, catMakeFrom, List.foldl_append]

theorem catMerge_spec (a b : List (K × V)) :
    CatInv (catMerge a b) ∧ (catMerge a b).assocs = b.foldl (fun m p => Assoc.mset m p.1 p.2) (mapMakeFrom a) := by
  rw [catMerge_eq, mapMakeFrom, ← List.foldl_append]; exact catMakeFrom_spec (a ++ b)

theorem catExtract_spec [Inhabited V] (src : List (K × V)) (ks : List K) :
    CatInv (catExtract src ks) ∧ (catExtract src ks).assocs =
      ks.foldl (fun m k => if (lookup k src).isSome then Assoc.mset m k ((lookup k src).getD default) else m) [] :=
  CatInv.foldl _ _ (fun c k h => by
    cases lookup k src with
    | none => exact ⟨h, rfl⟩
    | some v => dsimp only; rw [catSetValue_eq h]; exact ⟨h.mset k v, rfl⟩) ks catEmpty catEmpty_inv

end Assoc
end CM
