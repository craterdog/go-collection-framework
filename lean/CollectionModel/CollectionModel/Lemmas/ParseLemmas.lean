/-
  The parser's state is viewed through its *virtual token stream* `stack ++ rest`: a failed alternative
  (`ok = false`) restores it exactly, a successful one consumes a prefix, the EOF sentinel is consumed only by the
  final `parseToken(EOF)`, and the push-back stack never holds more than three tokens.  What `getNext`,
  `parseToken` and `parseIntrinsic` do is a function of the first token of that stream.
-/
import CollectionModel.Model.Cdcn.Sentence
namespace CM
namespace Cdcn

def stream (s : PS) : List Token := s.stack ++ s.rest

def ctxNames : List (List Nat) :=
  ["Array", "Catalog", "List", "Map", "Queue", "Set", "Stack"].map (fun s => s.toList.map ch)

variable (env : Env)

/-- what holds of the parser state between any two parse methods -/
structure WF (s : PS) : Prop where
  lines : ∀ t ∈ stream s, 1 ≤ t.line ∧ t.line ≤ env.nlines
  sentinel : ∃ pre e, stream s = pre ++ [e] ∧ e.tt = .eof ∧ ∀ t ∈ pre, t.tt ≠ .eof
  noErr : ∀ t ∈ s.stack, t.tt ≠ .error
  types : ∀ t ∈ stream s, t.tt = .type → t.value ∈ ctxNames
  stk : s.stack.length ≤ 3

/-- the token returned next to a result is set and its line can be looked up -/
def TokOk (tok : Option Token) : Prop := ∃ t, tok = some t ∧ 1 ≤ t.line ∧ t.line ≤ env.nlines

theorem fail_diag {α : Type} (tok : Option Token) (h : TokOk env tok) : ∃ t, fail env (α := α) tok = .diag t := by
  obtain ⟨t, rfl, h1, h2⟩ := h
  exact ⟨t, by simp [fail, h1, h2]⟩

theorem tokOk_of_mem (s : PS) (h : WF env s) (t : Token) (hm : t ∈ stream s) : TokOk env (some t) :=
  ⟨t, rfl, h.lines t hm⟩

theorem WF.head {s : PS} (h : WF env s) : ∃ t rest, stream s = t :: rest := by
  obtain ⟨pre, e, he, _, _⟩ := h.sentinel
  cases pre with
  | nil => exact ⟨e, [], he⟩
  | cons p ps => exact ⟨p, ps ++ [e], he⟩

/- The stack of a state is compared with that of the state before a token was taken from it (`- 1`: the token was
   on the stack unless that was empty) or put back (`max … 1`). -/
theorem pred_succ_eq_max_one (a : Nat) : a - 1 + 1 = max a 1 := by
  cases a with
  | zero => rfl
  | succ n => exact (Nat.max_eq_left (Nat.succ_le_succ (Nat.zero_le n))).symm

theorem max_one_pred (a : Nat) : max a 1 - 1 = a - 1 := by
  rw [← pred_succ_eq_max_one, Nat.add_sub_cancel]

theorem wf_consume (s s' : PS) (t : Token) (h : WF env s) (h1 : stream s = t :: stream s')
    (h2 : s'.stack.length = s.stack.length - 1) (hne : t.tt ≠ .eof) (hst : ∀ x ∈ s'.stack, x ∈ s.stack) : WF env s' := by
  refine ⟨?_, ?_, ?_, ?_, h2 ▸ Nat.le_trans (Nat.sub_le ..) h.stk⟩
  · intro x hx; exact h.lines x (by rw [h1]; simp [hx])
  · obtain ⟨pre, e, he, heof, hpre⟩ := h.sentinel
    rw [h1] at he
    cases pre with
    | nil =>
      obtain ⟨rfl, -⟩ := List.cons.inj he
      exact absurd heof hne
    | cons p pre' =>
      obtain ⟨-, hrest⟩ := List.cons.inj he
      exact ⟨pre', e, hrest, heof, fun x hx => hpre x (List.mem_cons_of_mem _ hx)⟩
  · intro x hx; exact h.noErr x (hst x hx)
  · intro x hx; exact h.types x (by rw [h1]; simp [hx])

/-- `t` was read first from the well-formed `s`, and `s'` holds what came after it: `putBack` finds room on the
    stack, and the stream and the invariants are those of `s` again -/
theorem putBack_restores (hcap : 3 < env.stackSize) (s : PS) (h : WF env s) (t : Token) (rest : List Token)
    (h1 : stream s = t :: rest) (hne : t.tt ≠ .error) (s' : PS) (h2 : stream s' = rest)
    (hno : ∀ x ∈ s'.stack, x.tt ≠ .error) (hk : s'.stack.length ≤ 2) :
    (∀ {α : Type} (k : PS → PR α), putBack env t s' k = k { s' with stack := t :: s'.stack }) ∧
      stream { s' with stack := t :: s'.stack } = stream s ∧ WF env { s' with stack := t :: s'.stack } := by
  have hs : stream { s' with stack := t :: s'.stack } = stream s := by
    rw [h1, ← h2]; simp [stream]
  refine ⟨fun k => ?_, hs, by rw [hs]; exact h.lines, by rw [hs]; exact h.sentinel, ?_, by rw [hs]; exact h.types, Nat.succ_le_succ hk⟩
  · have room : s'.stack.length < env.stackSize := Nat.lt_of_le_of_lt hk (Nat.lt_of_succ_lt hcap)
    unfold putBack
    rw [if_neg (Nat.ne_of_lt room)]
  · intro x hx
    rcases List.mem_cons.mp hx with rfl | hx
    · exact hne
    · exact hno x hx

/-- the first token of the stream is the top of the stack, or the stack is empty and it is the first in the queue -/
theorem stream_cons {s : PS} {t : Token} {rest : List Token} (hs : stream s = t :: rest) :
    (∃ xs, s.stack = t :: xs ∧ xs ++ s.rest = rest) ∨ s.stack = [] ∧ s.rest = t :: rest := by
  unfold stream at hs
  cases hst : s.stack with
  | nil => rw [hst] at hs; exact .inr ⟨rfl, hs⟩
  | cons x xs =>
    rw [hst] at hs
    obtain ⟨rfl, hr⟩ := List.cons.inj hs
    exact .inl ⟨xs, rfl, hr⟩

theorem getNext_head (s : PS) (t : Token) (rest : List Token) (hs : stream s = t :: rest) (hne : t.tt ≠ .error) :
    ∃ s', getNext env s = .ok t (some t) s' ∧ stream s' = rest ∧ s'.stack.length = s.stack.length - 1 ∧
      (∀ x ∈ s'.stack, x ∈ s.stack) := by
  unfold getNext
  rcases stream_cons hs with ⟨xs, hst, hr⟩ | ⟨hst, hre⟩
  · rw [hst]
    exact ⟨{ s with stack := xs }, rfl, hr, rfl, fun y hy => List.mem_cons_of_mem _ hy⟩
  · rw [hst, hre]
    exact ⟨{ s with rest := rest }, by simp [hne, hst], by simp [stream, hst], by simp [hst], by simp [hst]⟩

/-- the error token is never on the push-back stack: `getNext` meets it in the queue and raises its diagnostic -/
theorem getNext_error (s : PS) (h : WF env s) (t : Token) (rest : List Token) (hs : stream s = t :: rest) (he : t.tt = .error) :
    getNext env s = .diag t := by
  unfold getNext
  rcases stream_cons hs with ⟨xs, hst, -⟩ | ⟨hst, hre⟩
  · exact absurd he (h.noErr t (by simp [hst]))
  · have hl := h.lines t (by simp [stream, hst, hre])
    rw [hst, hre]
    simp [he, fail, hl.1, hl.2]

/-- does the token satisfy `parseToken(tt, val)`? -/
def tokMatches (t : Token) (tt : TT) (val : Option String) : Bool :=
  t.tt == tt && (match val with | none => true | some v => t.value == v.toList.map ch)

theorem tokMatches_tt {t : Token} {tt : TT} {val : Option String} (h : tokMatches t tt val = true) : t.tt = tt :=
  beq_iff_eq.mp (Bool.and_eq_true_iff.mp h).1

theorem parseToken_head (hcap : 3 < env.stackSize) (tt : TT) (val : Option String) (s : PS) (h : WF env s) (t : Token)
    (rest : List Token) (hs : stream s = t :: rest) (hne : t.tt ≠ .error) :
    ∃ s', stream s' = rest ∧ s'.stack.length = s.stack.length - 1 ∧ (t.tt ≠ .eof → WF env s') ∧
      WF env { s' with stack := t :: s'.stack } ∧
      parseToken env tt val s =
        if tokMatches t tt val = true then .ok t.value (some t) s' else .no (some t) { s' with stack := t :: s'.stack } := by
  obtain ⟨s', hg, hr, hk, hsub⟩ := getNext_head env s t rest hs hne
  obtain ⟨e, _, hw'⟩ := putBack_restores env hcap s h t rest hs hne s' hr (fun x hx => h.noErr x (hsub x hx))
    (hk ▸ Nat.sub_le_sub_right h.stk 1)
  refine ⟨s', hr, hk, fun hn => wf_consume env s s' t h (by rw [hs, hr]) hk hn hsub, hw', ?_⟩
  simp only [parseToken, hg, tokMatches, e]
  rfl

theorem parseToken_hit (hcap : 3 < env.stackSize) (tt : TT) (val : Option String) (s : PS) (h : WF env s) (t : Token)
    (rest : List Token) (hs : stream s = t :: rest) (hm : tokMatches t tt val = true) (hne : tt ≠ .error) (hneof : tt ≠ .eof) :
    ∃ s', parseToken env tt val s = .ok t.value (some t) s' ∧ stream s' = rest ∧ WF env s' ∧
      s'.stack.length = s.stack.length - 1 := by
  have htt := tokMatches_tt hm
  obtain ⟨s', hr, hk, hw', _, e⟩ := parseToken_head env hcap tt val s h t rest hs (htt ▸ hne)
  exact ⟨s', by rw [e, if_pos hm], hr, hw' (htt ▸ hneof), hk⟩

theorem parseToken_miss (hcap : 3 < env.stackSize) (tt : TT) (val : Option String) (s : PS) (h : WF env s) (t : Token)
    (rest : List Token) (hs : stream s = t :: rest) (hm : tokMatches t tt val = false) (hne : t.tt ≠ .error) :
    ∃ s', parseToken env tt val s = .no (some t) s' ∧ stream s' = stream s ∧ WF env s' ∧
      s'.stack.length = max s.stack.length 1 := by
  obtain ⟨s1, hr, hk, _, hw', e⟩ := parseToken_head env hcap tt val s h t rest hs hne
  exact ⟨_, by rw [e, if_neg (by simp [hm])], by rw [hs, ← hr]; simp [stream], hw',
    (congrArg (· + 1) hk).trans (pred_succ_eq_max_one _)⟩

def litKinds : List TT := [TT.boolean, TT.complex, TT.float, TT.hexadecimal, TT.integer, TT.nil, TT.rune, TT.string]

theorem isLiteralKind_iff (tt : TT) : isLiteralKind tt = true ↔ tt ∈ litKinds := by
  cases tt <;> decide

theorem literal_ne_error (t : Token) (h : isLiteralKind t.tt = true) : t.tt ≠ .error := by
  intro he; rw [he] at h; simp [isLiteralKind] at h

/-- the kinds are tried in order against the next token: it is consumed and converted if its kind
    is among them; otherwise the first miss puts it back and the later ones leave the state as it is.
    (For a non-empty list: on `[]`, `go` returns the token of the attempt before, `tok0`, not `t`.) -/
theorem intrinsic_go_head (hcap : 3 < env.stackSize) (t : Token) (rest : List Token) (hne : t.tt ≠ .error) :
    ∀ (kinds : List TT) (k : TT) (cur : PS) (tok0 : Option Token), WF env cur → stream cur = t :: rest →
      (∀ k' ∈ k :: kinds, k' ≠ .eof) →
      (t.tt ∈ k :: kinds → ∃ s', parseIntrinsic.go env (k :: kinds) cur tok0 =
          (match env.conv t with | some v => .ok v (some t) s' | none => fail env (some t)) ∧
        stream s' = rest ∧ WF env s' ∧ s'.stack.length = cur.stack.length - 1) ∧
      (t.tt ∉ k :: kinds → ∃ s', parseIntrinsic.go env (k :: kinds) cur tok0 = .no (some t) s' ∧
        stream s' = t :: rest ∧ WF env s' ∧ s'.stack.length = max cur.stack.length 1)
  | kinds, k, cur, tok0, hw, hs, hk => by
    by_cases he : t.tt = k
    · obtain ⟨s1, hp, hs1, hw1, hk1⟩ := parseToken_hit env hcap k none cur hw t rest hs (by simp [tokMatches, he])
        (he ▸ hne) (hk k (by simp))
      exact ⟨fun _ => ⟨s1, by simp only [parseIntrinsic.go, hp]; cases env.conv t <;> rfl, hs1, hw1, hk1⟩, fun hn => absurd (by simp [he]) hn⟩
    · obtain ⟨s1, hp, hs1, hw1, hk1⟩ := parseToken_miss env hcap k none cur hw t rest hs (by simpa [tokMatches] using he) hne
      have hmem : t.tt ∈ k :: kinds ↔ t.tt ∈ kinds := by simp [he]
      cases kinds with
      | nil => exact ⟨fun h => absurd (hmem.mp h) List.not_mem_nil, fun _ => ⟨s1, by simp only [parseIntrinsic.go, hp], by rw [hs1, hs], hw1, hk1⟩⟩
      | cons k2 more =>
        obtain ⟨ih1, ih2⟩ := intrinsic_go_head hcap t rest hne more k2 s1 (some t) hw1 (by rw [hs1, hs])
          (fun k' h => hk k' (List.mem_cons_of_mem _ h))
        refine ⟨fun hin => ?_, fun hnin => ?_⟩
        · obtain ⟨s2, hg, hs2, hw2, hk2⟩ := ih1 (hmem.mp hin)
          exact ⟨s2, by rw [parseIntrinsic.go, hp]; exact hg, hs2, hw2, by rw [hk2, hk1, max_one_pred]⟩
        · obtain ⟨s2, hg, hs2, hw2, hk2⟩ := ih2 (fun h => hnin (hmem.mpr h))
          exact ⟨s2, by rw [parseIntrinsic.go, hp]; exact hg, hs2, hw2, by rw [hk2, hk1, Nat.max_assoc, Nat.max_self]⟩

theorem litKinds_ne_eof : ∀ k ∈ litKinds, k ≠ TT.eof := by decide

/-- a literal is taken and converted; where the conversion fails, that is the diagnostic -/
theorem parseIntrinsic_lit (hcap : 3 < env.stackSize) (s : PS) (h : WF env s) (t : Token) (rest : List Token)
    (hs : stream s = t :: rest) (hl : isLiteralKind t.tt = true) :
    ∃ s', parseIntrinsic env s = (match env.conv t with | some v => .ok v (some t) s' | none => fail env (some t)) ∧
      stream s' = rest ∧ WF env s' ∧ s'.stack.length = s.stack.length - 1 :=
  (intrinsic_go_head env hcap t rest (literal_ne_error t hl) _ _ s none h hs litKinds_ne_eof).1 ((isLiteralKind_iff _).mp hl)

theorem parseIntrinsic_hit (hcap : 3 < env.stackSize) (s : PS) (h : WF env s) (t : Token) (rest : List Token) (v : Val)
    (hs : stream s = t :: rest) (hl : isLiteralKind t.tt = true) (hc : env.conv t = some v) :
    ∃ s', parseIntrinsic env s = .ok v (some t) s' ∧ stream s' = rest ∧ WF env s' ∧ s'.stack.length = s.stack.length - 1 := by
  have := parseIntrinsic_lit env hcap s h t rest hs hl
  rwa [hc] at this

theorem parseIntrinsic_miss (hcap : 3 < env.stackSize) (s : PS) (h : WF env s) (t : Token) (rest : List Token)
    (hs : stream s = t :: rest) (hl : isLiteralKind t.tt = false) (hne : t.tt ≠ .error) :
    ∃ s', parseIntrinsic env s = .no (some t) s' ∧ stream s' = stream s ∧ WF env s' ∧ s'.stack.length = max s.stack.length 1 := by
  rw [hs]
  exact (intrinsic_go_head env hcap t rest hne _ _ s none h hs litKinds_ne_eof).2
    (fun hm => by rw [(isLiteralKind_iff _).mpr hm] at hl; cases hl)

/-- outcome of a parse method started in state `s`; `d` bounds how many tokens a failing
    alternative may have read ahead and pushed back -/
inductive Post {α : Type} (d : Nat) (s : PS) : PR α → Prop
  | ok (a : α) (tok : Option Token) (s' : PS) (hw : WF env s') (hpre : ∃ pre, stream s = pre ++ stream s')
      (ht : TokOk env tok) : Post d s (.ok a tok s')
  | no (tok : Option Token) (s' : PS) (hw : WF env s') (hs : stream s' = stream s)
      (hk : s'.stack.length ≤ max s.stack.length d) (ht : TokOk env tok) : Post d s (.no tok s')
  | diag (t : Token) : Post d s (.diag t)

/- Where the fuel goes.  Every call of a parse method passes on one unit less.  A method that has consumed a
   token may call any other: a token is worth 8 units, more than the largest offset below plus the call.  Between
   two tokens the methods call each other in a fixed order, and the offset `off` of a method is the length of the
   longest chain of calls it can start without a token being consumed:
     sequence, association and the four loops 0 (they take a token first);
     collection 1 (→ sequence), value 2 (→ collection), inline associations 1 (→ association),
     associations 2 (→ inline or multi-line associations), inline values 3 (→ value), values 4 (→ inline values),
     items 5 (→ associations or values); the multi-line forms take the EOL first and are given 1.
   `parseTokens` is run with `8 * tokens + 16`: collection, then `skipEols` and the EOF. -/
def Fuel (off f : Nat) (s : PS) : Prop := 8 * (stream s).length + off ≤ f

theorem stream_nonempty_fuel {off f : Nat} {s : PS} (hw : WF env s) (hf : Fuel off f s) : 8 + off ≤ f := by
  obtain ⟨t, rest, hs⟩ := hw.head
  unfold Fuel at hf; rw [hs, List.length_cons] at hf
  have h8 : 8 ≤ 8 * (rest.length + 1) := Nat.le_add_left 8 _
  exact Nat.le_trans (Nat.add_le_add_right h8 off) hf

/-- two `if`s on the same condition are related if their branches are -/
theorem ite_rel {α β : Type} {R : α → β → Prop} {c : Prop} [Decidable c] {a a' : α} {b b' : β} (h1 : c → R a b) (h2 : ¬c → R a' b') :
    R (if c then a else a') (if c then b else b') := by
  by_cases h : c
  · rw [if_pos h, if_pos h]; exact h1 h
  · rw [if_neg h, if_neg h]; exact h2 h

/-- `mkCollection` is `collOf` plus the parser state: where `collOf` is undefined it raises the
    diagnostic, unless the set constructor panicked or the context is unknown -/
theorem mkCollection_spec (ctx : List Nat) (items : List Val) (tok : Option Token) (s : PS) :
    mkCollection env ctx items tok s =
        (match collOf env.mkSet ctx items with | some x => .ok x tok s | none => fail env tok) ∨
      mkCollection env ctx items tok s = .lib ∧ collOf env.mkSet ctx items = none ∧
        (env.mkSet items = none ∨ ctx ∉ ctxNames) := by
  -- the two definitions are `if` chains over the same seven names: branch by branch
  let R : PR Val → Option Val → Prop := fun m c =>
    m = (match c with | some x => .ok x tok s | none => fail env tok) ∨ m = .lib ∧ c = none ∧ (env.mkSet items = none ∨ ctx ∉ ctxNames)
  show R (mkCollection env ctx items tok s) (collOf env.mkSet ctx items)
  unfold mkCollection collOf
  dsimp only
  refine ite_rel (fun _ => .inl rfl) fun c1 => ?_
  refine ite_rel (fun _ => ite_rel (R := R) (fun _ => .inl rfl) fun _ => .inl rfl) fun c2 => ?_
  refine ite_rel (fun _ => ite_rel (R := R) (fun _ => .inl rfl) fun _ => .inl rfl) fun c3 => ?_
  refine ite_rel (fun _ => .inl rfl) fun c4 => ?_
  refine ite_rel (fun _ => .inl rfl) fun c5 => ?_
  refine ite_rel (fun _ => ?_) fun c6 => ?_
  · show _ = _ ∨ _
    cases h : env.mkSet items with
    | some v => exact .inl rfl
    | none => exact .inr ⟨rfl, rfl, .inl rfl⟩
  refine ite_rel (fun _ => .inl rfl) fun c7 => .inr ⟨rfl, rfl, .inr ?_⟩
  simp only [ctxNames, List.map_cons, List.map_nil, List.mem_cons, List.not_mem_nil, or_false]
  exact fun h => h.elim c1 fun h => h.elim c2 fun h => h.elim c4 fun h => h.elim c3 fun h => h.elim c5 fun h => h.elim c6 c7

theorem mkCollection_eq (ctx : List Nat) (items : List Val) (tok : Option Token) (s : PS) (x : Val)
    (h : collOf env.mkSet ctx items = some x) : mkCollection env ctx items tok s = .ok x tok s := by
  rcases mkCollection_spec env ctx items tok s with e | ⟨_, e, _⟩
  · rw [e, h]
  · rw [e] at h; cases h

end Cdcn
end CM
